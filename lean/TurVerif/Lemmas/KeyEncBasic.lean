import TurVerif.Model.KeyEnc
/-! C26: facts about the parts a key is made of: the comparisons, `memcmp` (`lexCmp`), big-endian
words, sign-flipped integer fields and the escape code of text/blob bodies. -/
namespace TurVerif.KeyEnc

@[simp] theorem then_eq' (o : Ordering) : Ordering.eq.then o = o := rfl
@[simp] theorem then_lt' (o : Ordering) : Ordering.lt.then o = .lt := rfl
@[simp] theorem then_gt' (o : Ordering) : Ordering.gt.then o = .gt := rfl
@[simp] theorem then_eq_right (o : Ordering) : o.then .eq = o := by cases o <;> rfl
theorem then_of_ne_eq {o : Ordering} (h : o ≠ .eq) (p q : Ordering) : o.then p = o.then q := by
  cases o <;> first | rfl | exact absurd rfl h

@[simp] theorem cmpNat_self (a : Nat) : cmpNat a a = .eq := by simp [cmpNat]
@[simp] theorem cmpInt_self (a : Int) : cmpInt a a = .eq := by simp [cmpInt]
theorem cmpNat_lt {a b : Nat} (h : a < b) : cmpNat a b = .lt := if_pos h
theorem cmpNat_gt {a b : Nat} (h : b < a) : cmpNat a b = .gt := by
  unfold cmpNat; rw [if_neg (by omega), if_neg (by omega)]
theorem cmpInt_lt {p q : Int} (h : p < q) : cmpInt p q = .lt := if_pos h
theorem cmpInt_gt {p q : Int} (h : q < p) : cmpInt p q = .gt := by
  unfold cmpInt; rw [if_neg (by omega), if_neg (by omega)]

/-- an order embedding of integers into naturals carries `cmpInt` to `cmpNat` -/
theorem cmpNat_of_cmpInt {a b : Nat} {x y : Int} (hlt : x < y → a < b) (heq : x = y → a = b)
    (hgt : y < x → b < a) : cmpNat a b = cmpInt x y := by
  rcases Int.lt_trichotomy x y with h | h | h
  · rw [cmpInt_lt h, cmpNat_lt (hlt h)]
  · rw [heq h, h, cmpNat_self, cmpInt_self]
  · rw [cmpInt_gt h, cmpNat_gt (hgt h)]

theorem cmpNat_eq_iff {a b : Nat} : cmpNat a b = .eq ↔ a = b := by
  rcases Nat.lt_trichotomy a b with h | h | h
  · rw [cmpNat_lt h]; exact ⟨nofun, by omega⟩
  · simp [h]
  · rw [cmpNat_gt h]; exact ⟨nofun, by omega⟩
theorem cmpInt_eq_iff {a b : Int} : cmpInt a b = .eq ↔ a = b := by
  unfold cmpInt; split
  · simp; omega
  · split <;> simp [*]
theorem cmpInt_lt_iff {a b : Int} : cmpInt a b = .lt ↔ a < b := by
  unfold cmpInt; split
  · simp [*]
  · split <;> simp [*]

@[simp] theorem lexCmp_nil_nil : lexCmp [] [] = .eq := rfl
@[simp] theorem lexCmp_cons_cons (x y : Nat) (xs ys : List Nat) :
    lexCmp (x :: xs) (y :: ys) = (cmpNat x y).then (lexCmp xs ys) := rfl
@[simp] theorem lexCmp_nil_cons (y : Nat) (ys : List Nat) : lexCmp [] (y :: ys) = .lt := rfl
@[simp] theorem lexCmp_cons_nil (y : Nat) (ys : List Nat) : lexCmp (y :: ys) [] = .gt := rfl

@[simp] theorem lexCmp_self (a : List Nat) : lexCmp a a = .eq := by
  induction a with
  | nil => rfl
  | cons x xs ih => simp [ih]

theorem lexCmp_eq_iff {a b : List Nat} : lexCmp a b = .eq ↔ a = b := by
  induction a generalizing b with
  | nil => cases b <;> simp
  | cons x xs ih =>
    cases b with
    | nil => simp
    | cons y ys =>
      rw [lexCmp_cons_cons, List.cons.injEq, ← ih, ← cmpNat_eq_iff (a := x)]
      cases cmpNat x y <;> simp

theorem lexCmp_append_eqlen {a b r1 r2 : List Nat} (h : a.length = b.length) :
    lexCmp (a ++ r1) (b ++ r2) = (lexCmp a b).then (lexCmp r1 r2) := by
  induction a generalizing b with
  | nil => cases b with
    | nil => simp
    | cons => simp at h
  | cons x xs ih =>
    cases b with
    | nil => simp at h
    | cons y ys =>
      simp only [List.cons_append, lexCmp_cons_cons, Ordering.then_assoc]
      rw [ih (by simpa using h)]

theorem lexCmp_cons_self (p : Nat) (s t : List Nat) : lexCmp (p :: s) (p :: t) = lexCmp s t := by
  rw [lexCmp_cons_cons, cmpNat_self, then_eq']

theorem lexCmp_append_left (e r1 r2 : List Nat) : lexCmp (e ++ r1) (e ++ r2) = lexCmp r1 r2 := by
  rw [lexCmp_append_eqlen rfl, lexCmp_self, then_eq']

theorem be_length (w v : Nat) : (be w v).length = w := by
  induction w generalizing v with
  | zero => rfl
  | succ w ih => simp [be, ih]

theorem cmpNat_divmod (a b : Nat) :
    (cmpNat (a / 256) (b / 256)).then (cmpNat (a % 256) (b % 256)) = cmpNat a b := by
  rcases Nat.lt_trichotomy (a / 256) (b / 256) with h | h | h
  · rw [cmpNat_lt h, cmpNat_lt (a := a) (b := b) (by omega)]; rfl
  · rw [h, cmpNat_self, then_eq']
    rcases Nat.lt_trichotomy (a % 256) (b % 256) with h' | h' | h'
    · rw [cmpNat_lt h', cmpNat_lt (by omega)]
    · rw [h', cmpNat_self, show a = b by omega, cmpNat_self]
    · rw [cmpNat_gt h', cmpNat_gt (by omega)]
  · rw [cmpNat_gt h, cmpNat_gt (a := a) (b := b) (by omega)]; rfl

theorem div_lt_pow {v w : Nat} (h : v < 256 ^ (w + 1)) : v / 256 < 256 ^ w := by
  rw [Nat.pow_succ] at h; exact Nat.div_lt_of_lt_mul (by omega)

theorem be_cmp (w : Nat) {a b : Nat} {r1 r2 : List Nat} (ha : a < 256 ^ w) (hb : b < 256 ^ w) :
    lexCmp (be w a ++ r1) (be w b ++ r2) = (cmpNat a b).then (lexCmp r1 r2) := by
  induction w generalizing a b r1 r2 with
  | zero =>
    have : a = 0 := by simpa using ha
    have : b = 0 := by simpa using hb
    subst_vars; simp [be]
  | succ w ih =>
    simp only [be, List.append_assoc, List.singleton_append]
    rw [ih (div_lt_pow ha) (div_lt_pow hb), lexCmp_cons_cons, ← Ordering.then_assoc, cmpNat_divmod]

theorem fromBe_be (w v : Nat) (hv : v < 256 ^ w) : fromBe (be w v) = v := by
  induction w generalizing v with
  | zero => have : v = 0 := by simpa using hv
            subst this; rfl
  | succ w ih =>
    have := ih _ (div_lt_pow hv)
    simp only [be, fromBe, List.foldl_append, List.foldl_cons, List.foldl_nil] at this ⊢
    omega

theorem take_be_append (w v : Nat) (rest : List Nat) : (be w v ++ rest).take w = be w v := by
  rw [List.take_left' (be_length w v)]
theorem drop_be_append (w v : Nat) (rest : List Nat) : (be w v ++ rest).drop w = rest := by
  rw [List.drop_left' (be_length w v)]

theorem be_bytes (w v : Nat) : ∀ x ∈ be w v, x < 256 := by
  induction w generalizing v with
  | zero => simp [be]
  | succ w ih =>
    intro x hx
    simp only [be, List.mem_append, List.mem_singleton] at hx
    rcases hx with h | h
    · exact ih _ _ h
    · omega

theorem toU_lt {m : Nat} (hm : 0 < m) (x : Int) : toU m x < m := by
  have := Int.emod_lt_of_pos x (show (0 : Int) < m by omega)
  unfold toU; omega

/-- `n as uN` on the range `-2^N ≤ n < 2^N` -/
theorem toU_of_range {m : Nat} {x : Int} (hx : -m ≤ x ∧ x < m) :
    (toU m x : Int) = if x < 0 then x + m else x := by
  unfold toU
  rw [Int.toNat_of_nonneg (Int.emod_nonneg _ (by omega))]
  split
  · rw [← Int.add_emod_right, Int.emod_eq_of_lt (by omega) (by omega)]
  · exact Int.emod_eq_of_lt (by omega) (by omega)

/-- On the `iN` range, `(n as uN) ^ (1 << (N-1))` is `n` shifted up by half the modulus. -/
theorem flipTop_toU {m h : Nat} (hm : m = 2 * h) {x : Int} (hx : -h ≤ x ∧ x < h) :
    flipTop (m / 2) (toU m x) = (x + h).toNat := by
  subst hm
  have e := toU_of_range (m := 2 * h) (x := x) (by omega)
  unfold flipTop
  rw [Nat.mul_div_cancel_left h (by omega)]
  split at e <;> split <;> omega

/-- `u as iN` undoes `n as uN` on the `iN` range -/
theorem toI_toU {m h : Nat} (hm : m = 2 * h) {x : Int} (hx : -h ≤ x ∧ x < h) :
    toI m (toU m x) = x := by
  subst hm
  have e := toU_of_range (m := 2 * h) (x := x) (by omega)
  unfold toI
  rw [Nat.mul_div_cancel_left h (by omega)]
  split at e <;> split <;> omega

theorem sfield_cmp {w m h : Nat} (hw : m = 256 ^ w) (hm : m = 2 * h) {x y : Int}
    (hx : -h ≤ x ∧ x < h) (hy : -h ≤ y ∧ y < h) (r1 r2 : List Nat) :
    lexCmp (sfield w m x ++ r1) (sfield w m y ++ r2) = (cmpInt x y).then (lexCmp r1 r2) := by
  unfold sfield
  rw [flipTop_toU hm hx, flipTop_toU hm hy,
    be_cmp w (by rw [← hw, hm]; omega) (by rw [← hw, hm]; omega),
    cmpNat_of_cmpInt (x := x) (y := y) (by omega) (by omega) (by omega)]

theorem flipTop_flipTop (h x : Nat) (hx : x < 2 * h) : flipTop h (flipTop h x) = x := by
  unfold flipTop; split <;> split <;> omega

theorem unsfield_sfield {w m h : Nat} (hw : m = 256 ^ w) (hm : m = 2 * h) {x : Int}
    (hx : -h ≤ x ∧ x < h) : unsfield m (sfield w m x) = x := by
  unfold sfield unsfield
  rw [fromBe_be _ _ (by rw [flipTop_toU hm hx, ← hw, hm]; omega),
    flipTop_flipTop _ _ (by have := toU_lt (m := m) (by omega) x; omega), toI_toU hm hx]

theorem sfield_length (w m : Nat) (d : Int) : (sfield w m d).length = w := by
  simp [sfield, be_length]

theorem venc_lt (a : Nat) (ha : a < 4294967296) : venc a < 4294967296 := by
  unfold venc flipTop; (repeat' split) <;> omega

theorem esc_cons (b : Nat) (t : List Nat) : esc (b :: t) =
    (if b = 0 then [0, 255] else if b = 255 then [255, 0] else [b]) ++ esc t := by
  simp only [esc]
  split
  · rfl
  · split <;> rfl

theorem esc_head (z : Nat) (u : List Nat) : ∃ v, esc (z :: u) = z :: v := by
  simp only [esc]
  split
  · exact ⟨_, by subst_vars; rfl⟩
  · split
    · exact ⟨_, by subst_vars; rfl⟩
    · exact ⟨_, rfl⟩

/-- `esc` preserves order and is prefix free: the tails `r1`, `r2` are arbitrary -/
theorem esc_cmp (a b r1 r2 : List Nat) :
    lexCmp (esc a ++ r1) (esc b ++ r2) = (lexCmp a b).then (lexCmp r1 r2) := by
  induction a generalizing b with
  | nil =>
    cases b with
    | nil => simp [esc]
    | cons y t =>
      -- the terminator `00 00` is below `00 FF` and below every other first byte
      by_cases hy : y = 0
      · subst hy; rfl
      · obtain ⟨v, e⟩ := esc_head y t
        rw [e]
        simp [esc, cmpNat_lt (Nat.pos_of_ne_zero hy)]
  | cons x s ih =>
    cases b with
    | nil =>
      by_cases hx : x = 0
      · subst hx; rfl
      · obtain ⟨v, e⟩ := esc_head x s
        rw [e]
        simp [esc, cmpNat_gt (Nat.pos_of_ne_zero hx)]
    | cons y t =>
      by_cases hxy : x = y
      · subst hxy
        simp only [esc]
        split
        · simp [ih]
        · split <;> simp [ih]
      · have hne : cmpNat x y ≠ .eq := fun e => hxy (cmpNat_eq_iff.mp e)
        obtain ⟨t1, e1⟩ := esc_head x s
        obtain ⟨t2, e2⟩ := esc_head y t
        rw [e1, e2, List.cons_append, List.cons_append, lexCmp_cons_cons, lexCmp_cons_cons, Ordering.then_assoc]
        exact then_of_ne_eq hne _ _

theorem esc_length_pos (a : List Nat) : 2 ≤ (esc a).length := by
  induction a with
  | nil => simp [esc]
  | cons x s ih => rw [esc_cons, List.length_append]; omega

theorem unesc_esc (a rest : List Nat) : unesc (esc a ++ rest) = some (a, (esc a).length) := by
  induction a with
  | nil => simp [esc, unesc]
  | cons x s ih =>
    rw [esc_cons]
    by_cases h0 : x = 0
    · subst h0; simp [unesc, ih]
    · by_cases h1 : x = 255
      · subst h1; simp [unesc, ih]
      · rw [if_neg h0, if_neg h1, List.singleton_append, List.cons_append, unesc.eq_def]
        simp [ih, h0, h1]

theorem esc_bytes (a : List Nat) (h : ∀ x ∈ a, x < 256) : ∀ x ∈ esc a, x < 256 := by
  induction a with
  | nil => simp [esc]
  | cons y s ih =>
    have hy := h y (by simp)
    intro x hx
    rw [esc_cons, List.mem_append] at hx
    rcases hx with hx | hx
    · split at hx
      · simp at hx; omega
      · split at hx <;> simp at hx <;> omega
    · exact ih (fun x hx => h x (by simp [hx])) _ hx

end TurVerif.KeyEnc
