import TurVerif.Model.Varint
/-!
Facts about the varint model. `len` and `encode` are chains of thresholds: `len` is monotone because
each link steps up (`mono_ite`), and `encode_cases` presents the six length classes with their byte
layouts, so that a statement about `len v` and `encode v` is proved class by class. `decode` is
described on those layouts (`dec1` … `dec9`); `announced f` is the length a first byte `f` announces, and `decode_spec` says a
decoded value has consumed exactly that many bytes.
(`split` is slow on these chains; the proofs walk them with `by_cases` and `if_pos`/`if_neg`.)
-/
namespace TurVerif.Varint

/-- One threshold in front of a function that is monotone and at least `c'`, with a value `c ≤ c'`
below the threshold, is again monotone and at least `c`. -/
theorem mono_ite {t c c' : Nat} {g : Nat → Nat} (hc : c ≤ c')
    (hg : ∀ a b, a ≤ b → c' ≤ g a ∧ g a ≤ g b) (a b : Nat) (h : a ≤ b) :
    c ≤ (if a ≤ t then c else g a) ∧ (if a ≤ t then c else g a) ≤ (if b ≤ t then c else g b) := by
  have ⟨h1, h2⟩ := hg a b h
  have h3 := (hg b b (Nat.le_refl b)).1
  by_cases ha : a ≤ t <;> by_cases hb : b ≤ t <;> simp only [ha, hb, if_true, if_false] <;> omega

theorem len_bounds : ∀ a b, a ≤ b → 1 ≤ len a ∧ len a ≤ len b :=
  mono_ite (by decide) <| mono_ite (by decide) <| mono_ite (by decide) <| mono_ite (by decide) <|
    mono_ite (c' := 9) (by decide) fun _ _ _ => ⟨Nat.le_refl 9, Nat.le_refl 9⟩

theorem len_pos (v : Nat) : 0 < len v := (len_bounds v v (Nat.le_refl v)).1

theorem len_mono {a b : Nat} (h : a ≤ b) : len a ≤ len b := (len_bounds a b h).2

theorem sh_eq_div (v k : Nat) : sh v k = v / 256 ^ k := by
  induction k with
  | zero => simp [sh]
  | succ k ih => rw [sh, ih, Nat.div_div_eq_div_mul, Nat.pow_succ]

/-- byte `k` is the top byte of a value below `256 ^ (k + 1)` -/
theorem sh_lt {v k : Nat} (h : v < 256 ^ k * 256) : sh v k < 256 := by
  rw [sh_eq_div]; exact Nat.div_lt_of_lt_mul h

/-- one more big-endian byte -/
theorem be_lt {a b n : Nat} (ha : a < 256 ^ n) (hb : b < 256) : a * 256 + b < 256 ^ (n + 1) :=
  calc a * 256 + b < (a + 1) * 256 := by
        rw [Nat.add_mul, Nat.one_mul]; exact Nat.add_lt_add_left hb _
    _ ≤ 256 ^ n * 256 := Nat.mul_le_mul_right _ ha

/-- the marker `241 + w / 256` of the two-byte class, `w = v - 240 < 2048` -/
theorem marker2 {w : Nat} (h : w < 2048) :
    (w / 256 + 241) % 256 = w / 256 + 241 ∧ w / 256 + 241 ≤ 248 := by omega

theorem encode_cases {P : Nat → List Nat → Prop} (v : Nat)
    (h1 : v ≤ 240 → P 1 [v % 256])
    (h2 : 240 < v → v ≤ 2287 → P 2 [((v - 240) / 256 + 241) % 256, (v - 240) % 256])
    (h3 : 2287 < v → v ≤ 67823 → P 3 [249, (v - 2288) / 256 % 256, (v - 2288) % 256])
    (h4 : 67823 < v → v ≤ 0xFFFFFF → P 4 [250, sh v 2 % 256, sh v 1 % 256, v % 256])
    (h5 : 0xFFFFFF < v → v ≤ 0xFFFFFFFF →
      P 5 [251, sh v 3 % 256, sh v 2 % 256, sh v 1 % 256, v % 256])
    (h9 : 0xFFFFFFFF < v → P 9 [255, sh v 7 % 256, sh v 6 % 256, sh v 5 % 256, sh v 4 % 256,
      sh v 3 % 256, sh v 2 % 256, sh v 1 % 256, v % 256]) : P (len v) (encode v) := by
  unfold len encode
  by_cases c1 : v ≤ 240
  · simp only [if_pos c1]; exact h1 c1
  simp only [if_neg c1]
  by_cases c2 : v ≤ 2287
  · simp only [if_pos c2]; exact h2 (Nat.lt_of_not_le c1) c2
  simp only [if_neg c2]
  by_cases c3 : v ≤ 67823
  · simp only [if_pos c3]; exact h3 (Nat.lt_of_not_le c2) c3
  simp only [if_neg c3]
  by_cases c4 : v ≤ 0xFFFFFF
  · simp only [if_pos c4]; exact h4 (Nat.lt_of_not_le c3) c4
  simp only [if_neg c4]
  by_cases c5 : v ≤ 0xFFFFFFFF
  · simp only [if_pos c5]; exact h5 (Nat.lt_of_not_le c4) c5
  · simp only [if_neg c5]; exact h9 (Nat.lt_of_not_le c5)

theorem rd_eq (buf : List Nat) (i : Nat) (k : Nat → Res) (h : i < buf.length) :
    rd buf i k = k buf[i] := by simp [rd, h]

theorem dec1 (f : Nat) (rest : List Nat) (h : f ≤ 240) : decode (f :: rest) = .ok f 1 :=
  if_pos h
theorem dec2 (f b1 : Nat) (rest : List Nat) (h1 : 241 ≤ f) (h2 : f ≤ 248) :
    decode (f :: b1 :: rest) = .ok (240 + (f - 241) * 256 + b1) 2 := by
  have : ¬ f ≤ 240 := by omega
  simp [decode, rd, *]
theorem dec3 (b1 b2 : Nat) (rest : List Nat) :
    decode (249 :: b1 :: b2 :: rest) = .ok (2288 + b1 * 256 + b2) 3 := rfl
theorem dec4 (b1 b2 b3 : Nat) (rest : List Nat) :
    decode (250 :: b1 :: b2 :: b3 :: rest) = .ok ((b1 * 256 + b2) * 256 + b3) 4 := rfl
theorem dec5 (b1 b2 b3 b4 : Nat) (rest : List Nat) :
    decode (251 :: b1 :: b2 :: b3 :: b4 :: rest) =
      .ok (((b1 * 256 + b2) * 256 + b3) * 256 + b4) 5 := rfl
theorem dec9 (b1 b2 b3 b4 b5 b6 b7 b8 : Nat) (rest : List Nat) :
    decode (255 :: b1 :: b2 :: b3 :: b4 :: b5 :: b6 :: b7 :: b8 :: rest) =
      .ok (((((((b1 * 256 + b2) * 256 + b3) * 256 + b4) * 256 + b5) * 256 + b6) * 256 + b7)
            * 256 + b8) 9 := rfl

/-- the length the first byte announces (what `decode`'s `trunc` checks compare against) -/
def announced (f : Nat) : Nat :=
  if f ≤ 240 then 1 else if f ≤ 248 then 2 else if f = 249 then 3 else if f = 250 then 4
  else if f = 251 then 5 else 9

/-- the first byte of an encoding announces its length -/
theorem announced_head (v : Nat) : ∃ f rest, encode v = f :: rest ∧ announced f = len v := by
  refine encode_cases (P := fun n l => ∃ f rest, l = f :: rest ∧ announced f = n) v ?_ ?_ ?_ ?_ ?_ ?_
  · exact fun h => ⟨_, _, rfl, if_pos (by omega)⟩
  · intro h h'
    obtain ⟨hm, hle⟩ := marker2 (w := v - 240) (by omega)
    refine ⟨_, _, rfl, ?_⟩
    rw [hm]; unfold announced
    rw [if_neg (by omega), if_pos hle]
  all_goals intros; exact ⟨_, _, rfl, rfl⟩

/-- what decoding promises of a result, for an input of `L` bytes whose first byte announces `N` -/
def Total (L N : Nat) (r : Res) : Prop :=
  r ≠ .oob ∧ ∀ v n, r = .ok v n → n ≤ L ∧ v < 2 ^ 64 ∧ n = N ∧ n ∈ [1, 2, 3, 4, 5, 9]

theorem total_err (L N : Nat) (e : String) : Total L N (.err e) :=
  ⟨Res.noConfusion, fun _ _ h => Res.noConfusion h⟩

theorem total_ok {L v n : Nat} (hn : n ≤ L) (hv : v < 2 ^ 64) (hc : n ∈ [1, 2, 3, 4, 5, 9]) :
    Total L n (.ok v n) :=
  ⟨Res.noConfusion, fun _ _ h => by cases h; exact ⟨hn, hv, rfl, hc⟩⟩

/-- `decode`'s length check in front of the reads of a class -/
theorem total_guard {L N n : Nat} {e : String} {r : Res} (h : n ≤ L → Total L N r) :
    Total L N (if L < n then .err e else r) := by
  by_cases hl : L < n
  · rw [if_pos hl]; exact total_err ..
  · rw [if_neg hl]; exact h (Nat.le_of_not_lt hl)

/-- A non-empty byte string never decodes to `oob`; a value is a u64 and has consumed exactly the
`announced f` bytes its first byte announces, all of them inside the input. -/
theorem decode_spec {f : Nat} {rest : List Nat} (hb : ∀ x ∈ f :: rest, x < 256) :
    Total (f :: rest).length (announced f) (decode (f :: rest)) := by
  -- a read below a length `n ≤ L` hands a byte to its continuation
  have read : ∀ {n N}, n ≤ (f :: rest).length → ∀ i (k : Nat → Res), i < n →
      (∀ b, b < 256 → Total (f :: rest).length N (k b)) →
      Total (f :: rest).length N (rd (f :: rest) i k) :=
    fun hn i k h hk => by
      have h' := Nat.lt_of_lt_of_le h hn
      rw [rd_eq _ _ _ h']; exact hk _ (hb _ (List.getElem_mem h'))
  have hf := hb f (List.mem_cons_self ..)
  have h0 : 1 ≤ (f :: rest).length := Nat.le_add_left ..
  show Total _ (announced f) (if f ≤ 240 then _ else _)
  unfold announced
  by_cases c1 : f ≤ 240
  · rw [if_pos c1, if_pos c1]; exact total_ok h0 (Nat.lt_trans hf (by decide)) (by decide)
  rw [if_neg c1, if_neg c1]
  by_cases c2 : f ≤ 248
  · rw [if_pos c2, if_pos c2]
    exact total_guard fun hl => read hl 1 _ (by decide) fun b1 _ =>
      total_ok hl (by omega) (by decide)
  rw [if_neg c2, if_neg c2]
  by_cases c3 : f = 249
  · rw [if_pos c3, if_pos c3]
    exact total_guard fun hl => read hl 1 _ (by decide) fun b1 _ => read hl 2 _ (by decide) fun b2 _ =>
      total_ok hl (by omega) (by decide)
  rw [if_neg c3, if_neg c3]
  by_cases c4 : f = 250
  · rw [if_pos c4, if_pos c4]
    exact total_guard fun hl => read hl 1 _ (by decide) fun b1 h1 => read hl 2 _ (by decide) fun b2 h2 =>
      read hl 3 _ (by decide) fun b3 h3 =>
      total_ok hl (Nat.lt_trans (be_lt (be_lt (n := 1) h1 h2) h3) (by decide)) (by decide)
  rw [if_neg c4, if_neg c4]
  by_cases c5 : f = 251
  · rw [if_pos c5, if_pos c5]
    exact total_guard fun hl => read hl 1 _ (by decide) fun b1 h1 => read hl 2 _ (by decide) fun b2 h2 =>
      read hl 3 _ (by decide) fun b3 h3 => read hl 4 _ (by decide) fun b4 h4 =>
      total_ok hl (Nat.lt_trans (be_lt (be_lt (be_lt (n := 1) h1 h2) h3) h4) (by decide)) (by decide)
  rw [if_neg c5, if_neg c5]
  by_cases c9 : f = 255
  · rw [if_pos c9]
    exact total_guard fun hl => read hl 1 _ (by decide) fun b1 h1 => read hl 2 _ (by decide) fun b2 h2 =>
      read hl 3 _ (by decide) fun b3 h3 => read hl 4 _ (by decide) fun b4 h4 =>
      read hl 5 _ (by decide) fun b5 h5 => read hl 6 _ (by decide) fun b6 h6 =>
      read hl 7 _ (by decide) fun b7 h7 => read hl 8 _ (by decide) fun b8 h8 =>
      total_ok hl (be_lt (be_lt (be_lt (be_lt (be_lt (be_lt (be_lt (n := 1) h1 h2) h3) h4) h5) h6) h7) h8)
        (by decide)
  · rw [if_neg c9]; exact total_err ..

end TurVerif.Varint
