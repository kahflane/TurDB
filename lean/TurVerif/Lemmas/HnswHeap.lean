import TurVerif.Model.Hnsw
/-!
Correctness of the transcription of Rust's `BinaryHeap` in `TurVerif.Hnsw`
(`swap`, `siftUp`, `siftDown`, `heapPush`, `heapPop`): the operations permute the elements, keep
the max-heap order (child ≤ parent) and `heapPop` returns a maximal element.  `le` is any total
preorder given as a Boolean function.

Heap order is followed through a sift by an invariant that exempts the edges at the position being
moved (`Hole`, `UpInv`); one step of either sift is a `swap` of that position with its parent or a
child, and `Below.congr` with the three `getElem?_swap_*` lemmas carries every other edge across.
-/
namespace TurVerif.HnswHeap
open TurVerif.Hnsw

variable {α : Type}

theorem swap_perm (l : List α) (i j : Nat) : (swap l i j).Perm l := by
  unfold swap
  split
  · next x y hx hy =>
    obtain ⟨hi, rfl⟩ := List.getElem?_eq_some_iff.1 hx
    obtain ⟨hj, rfl⟩ := List.getElem?_eq_some_iff.1 hy
    exact List.set_set_perm hi hj
  · exact .refl _

theorem swap_length (l : List α) (i j : Nat) : (swap l i j).length = l.length :=
  (swap_perm l i j).length_eq

theorem getElem?_swap_ne (l : List α) {i j k : Nat} (hi : k ≠ i) (hj : k ≠ j) :
    (swap l i j)[k]? = l[k]? := by
  unfold swap
  split
  · rw [List.getElem?_set_ne (Ne.symm hj), List.getElem?_set_ne (Ne.symm hi)]
  · rfl

theorem getElem?_swap_left (l : List α) {i j : Nat} (hi : i < l.length) (hj : j < l.length)
    (hij : i ≠ j) : (swap l i j)[i]? = l[j]? := by
  unfold swap
  rw [List.getElem?_eq_getElem hi, List.getElem?_eq_getElem hj]
  exact (List.getElem?_set_ne (Ne.symm hij)).trans (List.getElem?_set_self hi)

theorem getElem?_swap_right (l : List α) {i j : Nat} (hi : i < l.length) (hj : j < l.length) :
    (swap l i j)[j]? = l[i]? := by
  unfold swap
  rw [List.getElem?_eq_getElem hi, List.getElem?_eq_getElem hj]
  exact List.getElem?_set_self (by rw [List.length_set]; exact hj)

variable (le : α → α → Bool)

theorem siftUp_perm (fuel : Nat) (l : List α) (pos : Nat) :
    (siftUp le fuel l pos).Perm l := by
  fun_induction siftUp le fuel l pos with
  | case4 fuel l pos _ parent _ _ _ _ _ ih => exact ih.trans (swap_perm l pos parent)
  | _ => exact .refl _

theorem siftDown_perm (fuel : Nat) (l : List α) (pos : Nat) :
    (siftDown le fuel l pos).1.Perm l := by
  fun_induction siftDown le fuel l pos with
  | case2 fuel l pos _ _ _ _ _ _ c ih => exact ih.trans (swap_perm l pos c)
  | case4 => exact swap_perm _ _ _
  | _ => exact .refl _

theorem heapPush_perm (l : List α) (x : α) :
    (heapPush le l x).Perm (x :: l) :=
  (siftUp_perm le _ _ _).trans List.perm_append_comm

theorem heapPush_length (l : List α) (x : α) :
    (heapPush le l x).length = l.length + 1 :=
  (heapPush_perm le l x).length_eq

structure TotalPreorder : Prop where
  total : ∀ a b, le a b = true ∨ le b a = true
  trans : ∀ a b c, le a b = true → le b c = true → le a c = true

/-- the element at `i`, if any, is ≤ the element at `j`, if any -/
def Below (l : List α) (i j : Nat) : Prop :=
  ∀ x p, l[i]? = some x → l[j]? = some p → le x p = true

/-- max-heap: every element is ≤ its parent -/
def Heap (l : List α) : Prop := ∀ i, 0 < i → Below le l i ((i - 1) / 2)

/-- Heap order except on the edges at `pos`, whose children are ≤ its parent: the state of the
array while the element at `pos` is being moved. -/
def Hole (l : List α) (pos : Nat) : Prop :=
  (∀ i, 0 < i → i ≠ pos → (i - 1) / 2 ≠ pos → Below le l i ((i - 1) / 2)) ∧
  (∀ c, 0 < pos → 0 < c → (c - 1) / 2 = pos → Below le l c ((pos - 1) / 2))

/-- `Hole` with the children of `pos` in order as well: only `pos` and its parent may be out of
order. -/
def UpInv (l : List α) (pos : Nat) : Prop :=
  Hole le l pos ∧ ∀ c, 0 < c → (c - 1) / 2 = pos → Below le l c pos

variable {le}

theorem mem_heapPush {l : List α} {x y : α} :
    y ∈ heapPush le l x ↔ y = x ∨ y ∈ l :=
  (heapPush_perm le l x).mem_iff.trans List.mem_cons

/-- `heapPop` on an array of two or more elements: the last one goes to the root, sinks to the
bottom and rises again. -/
theorem heapPop_cons_concat (top : α) (tl : List α) (item : α) :
    heapPop le ((top :: tl) ++ [item]) =
      some (top, siftUp le ((siftDown le (tl.length + 1) (item :: tl) 0).1.length + 1)
        (siftDown le (tl.length + 1) (item :: tl) 0).1 (siftDown le (tl.length + 1) (item :: tl) 0).2) := by
  simp only [heapPop, List.getLast?_concat, List.dropLast_concat, List.length_cons]

theorem heapPop_none {l : List α} : heapPop le l = none ↔ l = [] := by
  rcases l.eq_nil_or_concat with rfl | ⟨ys, item, rfl⟩
  · simp [heapPop]
  · rw [List.concat_eq_append]
    cases ys with
    | nil => simp [heapPop]
    | cons t tl => rw [heapPop_cons_concat]; simp

theorem heapPop_perm {l : List α} {top : α} {rest : List α}
    (h : heapPop le l = some (top, rest)) : l.Perm (top :: rest) := by
  rcases l.eq_nil_or_concat with rfl | ⟨ys, item, rfl⟩
  · cases h
  · rw [List.concat_eq_append] at h ⊢
    cases ys with
    | nil => cases h; exact .refl _
    | cons t tl =>
      rw [heapPop_cons_concat] at h
      cases h
      refine .cons _ (List.perm_append_comm.trans ?_)
      exact ((siftUp_perm ..).trans (siftDown_perm ..)).symm

/-! Positions: `(i - 1) / 2` is the parent of `i`; `2 * p + 1` and `2 * p + 2` are the children of `p`. -/

theorem parent_lt {i : Nat} (h : 0 < i) : (i - 1) / 2 < i :=
  Nat.lt_of_le_of_lt (Nat.div_le_self _ _) (Nat.sub_lt h Nat.one_pos)

theorem lt_of_parent_eq {c p : Nat} (h : 0 < c) (hc : (c - 1) / 2 = p) : p < c :=
  hc ▸ parent_lt h

theorem eq_child {c p : Nat} (h : 0 < c) (hc : (c - 1) / 2 = p) : c = 2 * p + 1 ∨ c = 2 * p + 2 := by
  omega

theorem parent_left (p : Nat) : (2 * p + 1 - 1) / 2 = p :=
  Nat.mul_div_cancel_left p Nat.two_pos

theorem parent_right (p : Nat) : (2 * p + 2 - 1) / 2 = p :=
  (Nat.mul_add_div Nat.two_pos p 1).trans (Nat.add_zero p)

theorem Below.congr {l l' : List α} {i j i' j' : Nat} (h : Below le l i j)
    (hi : l'[i']? = l[i]?) (hj : l'[j']? = l[j]?) : Below le l' i' j' := by
  intro x p hx hp
  rw [hi] at hx; rw [hj] at hp
  exact h x p hx hp

theorem Below.trans (ho : TotalPreorder le) {l : List α} {i j k : Nat}
    (h1 : Below le l i j) (h2 : Below le l j k) (hj : j < l.length) : Below le l i k :=
  fun x p hx hp => ho.trans _ _ _ (h1 x _ hx (List.getElem?_eq_getElem hj))
    (h2 _ p (List.getElem?_eq_getElem hj) hp)

theorem below_of_le {l : List α} {i j : Nat} {x p : α} (hx : l[i]? = some x)
    (hp : l[j]? = some p) (h : le x p = true) : Below le l i j := by
  intro x' p' hx' hp'
  rw [hx] at hx'; rw [hp] at hp'
  cases hx'; cases hp'; exact h

theorem below_of_length_le {l : List α} {i : Nat} (j : Nat)
    (h : l.length ≤ i) : Below le l i j := by
  intro x p hx
  rw [List.getElem?_eq_none h] at hx; cases hx

theorem heap_nil : Heap le [] := fun _ _ => below_of_length_le _ (Nat.zero_le _)

theorem heap_top_max (ho : TotalPreorder le) {l : List α} (h : Heap le l) {top : α}
    (ht : l[0]? = some top) : ∀ (i : Nat) (y : α), l[i]? = some y → le y top = true := by
  intro i
  induction i using Nat.strongRecOn with
  | _ i ih =>
    intro y hy
    by_cases hi : i = 0
    · subst hi; rw [ht] at hy; cases hy
      exact (ho.total top top).elim id id
    · have hp := parent_lt (Nat.pos_of_ne_zero hi)
      have hpl := List.getElem?_eq_getElem (Nat.lt_trans hp (List.getElem?_eq_some_iff.1 hy).1)
      exact ho.trans _ _ _ (h i (Nat.pos_of_ne_zero hi) y _ hy hpl) (ih _ hp _ hpl)

theorem Hole.upInv_of_leaf {l : List α} {pos : Nat} (h : Hole le l pos)
    (hleaf : l.length ≤ 2 * pos + 1) : UpInv le l pos := by
  refine ⟨h, fun c hc hcp => below_of_length_le _ ?_⟩
  rcases eq_child hc hcp with rfl | rfl
  · exact hleaf
  · exact Nat.le_succ_of_le hleaf

theorem UpInv.heap {l : List α} {pos : Nat} (h : UpInv le l pos)
    (hpos : 0 < pos → Below le l pos ((pos - 1) / 2)) : Heap le l := by
  intro i hi
  by_cases hip : i = pos
  · subst hip; exact hpos hi
  · by_cases hpi : (i - 1) / 2 = pos
    · rw [hpi]; exact h.2 i hi hpi
    · exact h.1.1 i hi hip hpi

/-- One step of `siftUp`: the element at `pos` is larger than its parent and changes places
with it. -/
theorem UpInv.swap_parent (ho : TotalPreorder le) {l : List α} {pos : Nat} {x p : α}
    (h : UpInv le l pos) (h0 : 0 < pos) (hx : l[pos]? = some x) (hp : l[(pos - 1) / 2]? = some p)
    (hpx : le p x = true) : UpInv le (swap l pos ((pos - 1) / 2)) ((pos - 1) / 2) := by
  have hposl : pos < l.length := (List.getElem?_eq_some_iff.1 hx).1
  have hql : (pos - 1) / 2 < l.length := (List.getElem?_eq_some_iff.1 hp).1
  have hq : (pos - 1) / 2 < pos := parent_lt h0
  have hqp : Below le l ((pos - 1) / 2) pos := below_of_le hp hx hpx
  have atPos := getElem?_swap_left l hposl hql (Nat.ne_of_gt hq)
  have atPar := getElem?_swap_right l hposl hql
  -- a child `i` of the parent, before the swap and after
  have hsib : ∀ i, 0 < i → (i - 1) / 2 = (pos - 1) / 2 → i ≠ pos →
      Below le l i ((pos - 1) / 2) ∧ (swap l pos ((pos - 1) / 2))[i]? = l[i]? := fun i hi hpi hip =>
    ⟨hpi ▸ h.1.1 i hi hip (hpi ▸ Nat.ne_of_lt hq),
      getElem?_swap_ne l hip (Nat.ne_of_gt (lt_of_parent_eq hi hpi))⟩
  refine ⟨⟨fun i hi hiq hpiq => ?_, fun c hq0 hc hcq => ?_⟩, fun i hi hpi => ?_⟩
  · by_cases hip : i = pos
    · exact absurd (hip ▸ rfl) hpiq
    · by_cases hpi : (i - 1) / 2 = pos
      · rw [hpi]
        exact (h.1.2 i h0 hi hpi).congr (getElem?_swap_ne l hip hiq) atPos
      · exact (h.1.1 i hi hip hpi).congr (getElem?_swap_ne l hip hiq) (getElem?_swap_ne l hpi hpiq)
  · have hg := parent_lt hq0
    have hqg : Below le l ((pos - 1) / 2) (((pos - 1) / 2 - 1) / 2) :=
      h.1.1 _ hq0 (Nat.ne_of_lt hq) (Nat.ne_of_lt (Nat.lt_trans hg hq))
    have atG := getElem?_swap_ne l (Nat.ne_of_lt (Nat.lt_trans hg hq)) (Nat.ne_of_lt hg)
    by_cases hcp : c = pos
    · rw [hcp]; exact hqg.congr atPos atG
    · exact ((hsib c hc hcq hcp).1.trans ho hqg hql).congr (hsib c hc hcq hcp).2 atG
  · by_cases hip : i = pos
    · rw [hip]; exact hqp.congr atPos atPar
    · exact ((hsib i hi hpi hip).1.trans ho hqp hql).congr (hsib i hi hpi hip).2 atPar

theorem siftUp_heap (ho : TotalPreorder le) (fuel : Nat) (l : List α) (pos : Nat)
    (hf : pos < fuel) (h : UpInv le l pos) : Heap le (siftUp le fuel l pos) := by
  fun_induction siftUp le fuel l pos with
  | case1 => exact absurd hf (Nat.not_lt_zero _)
  | case2 => exact h.heap fun h0 => absurd h0 (Nat.lt_irrefl 0)
  | case3 _ _ _ _ _ x p hp hx hle => exact h.heap fun _ => below_of_le hx hp hle
  | case4 _ _ pos h0 _ x p hp hx hle ih =>
    have h0 := Nat.pos_of_ne_zero h0
    exact ih (Nat.lt_of_lt_of_le (parent_lt h0) (Nat.le_of_lt_succ hf))
      (h.swap_parent ho h0 hx hp ((ho.total x p).resolve_left hle))
  | case5 _ _ _ _ _ hnone => exact h.heap fun _ x p hx hp => (hnone x p hx hp).elim

theorem heapPush_heap (ho : TotalPreorder le) {l : List α} (x : α) (h : Heap le l) :
    Heap le (heapPush le l x) := by
  have hlen : (l ++ [x]).length = l.length + 1 := List.length_append
  refine siftUp_heap ho _ _ _ (Nat.lt_succ_self _) (Hole.upInv_of_leaf ⟨?_, ?_⟩ ?_)
  · intro i hi hil _
    by_cases hlt : i < l.length
    · exact (h i hi).congr (List.getElem?_append_left hlt)
        (List.getElem?_append_left (Nat.lt_trans (parent_lt hi) hlt))
    · exact below_of_length_le _ (hlen ▸ Nat.lt_of_le_of_ne (Nat.le_of_not_lt hlt) (Ne.symm hil))
  · intro c _ hc hcp
    exact below_of_length_le _ (hlen ▸ lt_of_parent_eq hc hcp)
  · rw [hlen]; exact Nat.succ_le_succ (Nat.le_mul_of_pos_left _ Nat.two_pos)

/-- One step of `siftDown`: the position `pos` being moved changes places with its child `c`, the
other child `s` being ≤ it. -/
theorem Hole.swap_child {l : List α} {pos c s : Nat} (h : Hole le l pos)
    (hcs : c = 2 * pos + 1 ∧ s = 2 * pos + 2 ∨ c = 2 * pos + 2 ∧ s = 2 * pos + 1)
    (hcl : c < l.length) (hsc : Below le l s c) : Hole le (swap l pos c) c ∧ pos < c := by
  have ⟨hc0, hc⟩ : 0 < c ∧ (c - 1) / 2 = pos := by
    rcases hcs with ⟨rfl, _⟩ | ⟨rfl, _⟩
    · exact ⟨Nat.succ_pos _, parent_left pos⟩
    · exact ⟨Nat.succ_pos _, parent_right pos⟩
  have hpc : pos < c := lt_of_parent_eq hc0 hc
  have atPos := getElem?_swap_left l (Nat.lt_trans hpc hcl) hcl (Nat.ne_of_lt hpc)
  refine ⟨⟨fun i hi hic hpic => ?_, fun i _ hi hpi => ?_⟩, hpc⟩
  · by_cases hip : i = pos
    · have hg := parent_lt (hip ▸ hi)
      rw [hip]
      exact (h.2 c (hip ▸ hi) hc0 hc).congr atPos
        (getElem?_swap_ne l (Nat.ne_of_lt hg) (Nat.ne_of_lt (Nat.lt_trans hg hpc)))
    · by_cases hpi : (i - 1) / 2 = pos
      · have his : i = s := by
          rcases eq_child hi hpi with rfl | rfl <;> rcases hcs with ⟨rfl, rfl⟩ | ⟨rfl, rfl⟩
          · exact absurd rfl hic
          · rfl
          · rfl
          · exact absurd rfl hic
        rw [hpi, his]
        exact hsc.congr (getElem?_swap_ne l (his ▸ hip) (his ▸ hic)) atPos
      · exact (h.1 i hi hip hpi).congr (getElem?_swap_ne l hip hic) (getElem?_swap_ne l hpi hpic)
  · have hci : c < i := lt_of_parent_eq hi hpi
    rw [hc]
    exact (hpi ▸ h.1 i hi (Nat.ne_of_gt (Nat.lt_trans hpc hci)) (hpi ▸ Nat.ne_of_gt hpc)).congr
      (getElem?_swap_ne l (Nat.ne_of_gt (Nat.lt_trans hpc hci)) (Nat.ne_of_gt hci)) atPos

/-- `siftDown` with enough fuel takes `pos` down to a leaf. -/
theorem siftDown_spec (ho : TotalPreorder le) (fuel : Nat) (l : List α) (pos : Nat)
    (hf : l.length ≤ fuel + pos) (hpos : pos < l.length) (h : Hole le l pos) :
    UpInv le (siftDown le fuel l pos).1 (siftDown le fuel l pos).2 ∧
      (siftDown le fuel l pos).2 < l.length := by
  fun_induction siftDown le fuel l pos with
  | case1 l pos => exact absurd hpos (Nat.not_lt.2 (Nat.zero_add pos ▸ hf))
  | case2 f l pos child h2 x y hy hx c ih =>
    rw [swap_length] at ih
    have h1 : child < l.length := Nat.lt_of_succ_lt h2
    have ⟨hc, hd, hpc⟩ : c < l.length ∧ Hole le (swap l pos c) c ∧ pos < c := by
      by_cases hxy : le x y = true
      · simp only [c, hxy, if_true]
        exact ⟨h2, h.swap_child (.inr ⟨rfl, rfl⟩) h2 (below_of_le hx hy hxy)⟩
      · simp only [c, hxy]
        exact ⟨h1, h.swap_child (.inl ⟨rfl, rfl⟩) h1
          (below_of_le hy hx ((ho.total x y).resolve_left hxy))⟩
    exact ih (by omega) hc hd
  | case3 f l pos child h2 hnone =>
    exact (hnone _ _ (List.getElem?_eq_getElem (Nat.lt_of_succ_lt h2))
      (List.getElem?_eq_getElem h2)).elim
  | case4 f l pos child h2 h3 =>
    have h1 : child < l.length := h3 ▸ Nat.lt_succ_self _
    have ⟨hd, _⟩ := h.swap_child (.inl ⟨rfl, rfl⟩) h1
      (below_of_length_le (i := 2 * pos + 2) _ (Nat.le_of_eq h3.symm))
    refine ⟨hd.upInv_of_leaf ?_, h1⟩
    rw [swap_length, ← h3]
    exact Nat.succ_le_succ (Nat.le_mul_of_pos_left child Nat.two_pos)
  | case5 f l pos child h2 h3 =>
    exact ⟨h.upInv_of_leaf (Nat.le_of_lt_succ (Nat.lt_of_le_of_ne (Nat.le_of_not_lt h2)
      (Ne.symm h3))), hpos⟩

/-- `heapPop` on a heap returns a maximum, which was the root, and leaves a heap of the other
elements. -/
theorem heapPop_spec (ho : TotalPreorder le) {l : List α} (h : Heap le l) {top : α} {rest : List α}
    (hp : heapPop le l = some (top, rest)) :
    Heap le rest ∧ l.Perm (top :: rest) ∧ (∀ y ∈ l, le y top = true) ∧ l[0]? = some top := by
  have hperm := heapPop_perm hp
  have hmax : l[0]? = some top → ∀ y ∈ l, le y top = true := fun ht y hy =>
    have ⟨i, hi, e⟩ := List.getElem_of_mem hy
    heap_top_max ho h ht i y (e ▸ List.getElem?_eq_getElem hi)
  rcases l.eq_nil_or_concat with rfl | ⟨ys, item, rfl⟩
  · cases hp
  · rw [List.concat_eq_append] at *
    cases ys with
    | nil => cases hp; exact ⟨heap_nil, hperm, hmax rfl, rfl⟩
    | cons t tl =>
      rw [heapPop_cons_concat] at hp
      cases hp
      refine ⟨?_, hperm, hmax rfl, rfl⟩
      -- below the root, the array with the last element moved to the root is the old one shortened
      have same : ∀ k y, 0 < k → (item :: tl)[k]? = some y → ((top :: tl) ++ [item])[k]? = some y := by
        intro k y hk hy
        cases k with
        | zero => exact absurd hk (Nat.lt_irrefl 0)
        | succ k =>
          rw [List.getElem?_cons_succ] at hy
          rw [List.cons_append, List.getElem?_cons_succ,
            List.getElem?_append_left (List.getElem?_eq_some_iff.1 hy).1]
          exact hy
      have hole : Hole le (item :: tl) 0 :=
        ⟨fun i hi _ hpi x p hx hp =>
          h i hi x p (same i x hi hx) (same _ p (Nat.pos_of_ne_zero hpi) hp),
          fun _ h0 => absurd h0 (Nat.lt_irrefl 0)⟩
      have sd := siftDown_spec ho (tl.length + 1) (item :: tl) 0 (Nat.le_add_right _ _)
        (Nat.succ_pos _) hole
      exact siftUp_heap ho _ _ _
        (Nat.lt_succ_of_lt ((siftDown_perm le _ (item :: tl) 0).length_eq ▸ sd.2)) sd.1

end TurVerif.HnswHeap
