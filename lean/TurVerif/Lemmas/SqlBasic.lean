import TurVerif.Model.Sql
/-!
Facts about the reference semantics `TurVerif.Sql` that several properties rest on: the truth
value of a value, the WHERE filter in closed form (the loops of the inner join are instances of
it), sameness of values and rows as equality of normal forms, DISTINCT.
-/
namespace TurVerif.Sql

theorem Val.truth_ofTri (tv : Tri) : (Val.ofTri tv).truth = .ok tv := by cases tv <;> rfl

theorem Val.truth_eq_ok {v : Val} {tv : Tri} : v.truth = .ok tv ↔ v = Val.ofTri tv := by
  constructor
  · intro h
    cases v with
    | null => cases h; rfl
    | bool b => cases b <;> cases h <;> rfl
    | _ => cases h
  · rintro rfl
    exact truth_ofTri tv

theorem keeps_eq_ok {p : Expr} {r : Row} {b : Bool} :
    keeps p r = .ok b ↔ ∃ tv, eval r p = .ok (Val.ofTri tv) ∧ tv.isTrue = b := by
  unfold keeps
  constructor
  · intro h
    split at h
    · cases h
    · rename_i v hv
      split at h
      · cases h
      · rename_i tv htv
        cases h
        exact ⟨tv, by rw [hv, Val.truth_eq_ok.mp htv], rfl⟩
  · rintro ⟨tv, h, rfl⟩
    simp only [h, Val.truth_ofTri]

theorem keeps_of_eval {p : Expr} {r : Row} {tv : Tri} (h : eval r p = .ok (Val.ofTri tv)) :
    keeps p r = .ok tv.isTrue :=
  keeps_eq_ok.mpr ⟨tv, h, rfl⟩

/-- the filter's verdict on a row as a `Bool` (`false` also where the predicate has no truth
value; `filterRows` is then an error and nothing is claimed) -/
def kept (p : Expr) (r : Row) : Bool :=
  match keeps p r with
  | .ok b => b
  | .error _ => false

theorem kept_of_keeps {p : Expr} {r : Row} {b : Bool} (h : keeps p r = .ok b) : kept p r = b := by
  unfold kept
  rw [h]

theorem kept_iff (p : Expr) (r : Row) : kept p r = true ↔ keeps p r = .ok true := by
  unfold kept
  cases keeps p r with
  | ok b => exact ⟨fun h => h ▸ rfl, Except.ok.inj⟩
  | error e => exact ⟨nofun, nofun⟩

theorem filterRows_ok_iff {p : Expr} {rows out : List Row} :
    filterRows p rows = .ok out ↔
      out = rows.filter (kept p) ∧ ∀ r ∈ rows, keeps p r = .ok (kept p r) := by
  induction rows generalizing out with
  | nil => exact ⟨fun h => by cases h; exact ⟨rfl, nofun⟩, fun h => h.1 ▸ rfl⟩
  | cons x xs ih =>
    rw [List.forall_mem_cons, List.filter_cons]
    constructor
    · intro h
      simp only [filterRows] at h
      split at h
      · rename_i b o hb ho
        cases h
        have hk := kept_of_keeps hb
        exact ⟨by rw [hk, (ih.mp ho).1], hk ▸ hb, (ih.mp ho).2⟩
      · cases h
      · cases h
    · rintro ⟨rfl, hx, hxs⟩
      simp only [filterRows, hx, ih.mpr ⟨rfl, hxs⟩]

theorem matchesOf_eq_filterRows (on : Expr) (l : Row) (rs : List Row) :
    matchesOf on l rs = filterRows on (rs.map (fun r => l ++ r)) := by
  induction rs with
  | nil => rfl
  | cons r rs ih => simp only [matchesOf, List.map_cons, filterRows, ih]

theorem matchesOf_ok_iff {on : Expr} {l : Row} {rs out : List Row} :
    matchesOf on l rs = .ok out ↔
      out = (rs.filter fun r => kept on (l ++ r)).map (fun r => l ++ r) ∧
      ∀ r ∈ rs, keeps on (l ++ r) = .ok (kept on (l ++ r)) := by
  rw [matchesOf_eq_filterRows, filterRows_ok_iff, List.filter_map, List.forall_mem_map]
  rfl

theorem innerJoin_ok_iff {on : Expr} {ls rs out : List Row} :
    innerJoin on ls rs = .ok out ↔
      out = ls.flatMap (fun l => (rs.filter fun r => kept on (l ++ r)).map (fun r => l ++ r)) ∧
      ∀ l ∈ ls, ∀ r ∈ rs, keeps on (l ++ r) = .ok (kept on (l ++ r)) := by
  induction ls generalizing out with
  | nil => exact ⟨fun h => by cases h; exact ⟨rfl, nofun⟩, fun h => h.1 ▸ rfl⟩
  | cons l ls ih =>
    rw [List.forall_mem_cons, List.flatMap_cons]
    constructor
    · intro h
      simp only [innerJoin] at h
      split at h
      · rename_i a b ha hb
        cases h
        obtain ⟨rfl, h1⟩ := matchesOf_ok_iff.mp ha
        obtain ⟨rfl, h2⟩ := ih.mp hb
        exact ⟨rfl, h1, h2⟩
      · cases h
      · cases h
    · rintro ⟨rfl, h1, h2⟩
      simp only [innerJoin, matchesOf_ok_iff.mpr ⟨rfl, h1⟩, ih.mpr ⟨rfl, h2⟩]

/-- INT cast to DOUBLE: the normal form under which `Val.same` is equality -/
def Val.norm : Val → Val
  | .int i => .flt i
  | v => v

theorem Val.same_iff (a b : Val) : Val.same a b = true ↔ a.norm = b.norm := by
  cases a <;> cases b <;> simp [Val.same, Val.norm, Rat.intCast_inj]

theorem rowSame_iff (a b : Row) : rowSame a b = true ↔ a.map Val.norm = b.map Val.norm := by
  induction a generalizing b with
  | nil => cases b <;> simp [rowSame]
  | cons x xs ih => cases b <;> simp [rowSame, Val.same_iff, ih]

theorem rowSame_refl (r : Row) : rowSame r r = true := (rowSame_iff r r).mpr rfl

theorem rowSame_comm (a b : Row) : rowSame a b = rowSame b a := by
  rw [Bool.eq_iff_iff, rowSame_iff, rowSame_iff]
  exact eq_comm

theorem rowSame_symm {a b : Row} (h : rowSame a b = true) : rowSame b a = true :=
  rowSame_comm a b ▸ h

theorem rowSame_trans {a b c : Row} (h1 : rowSame a b = true) (h2 : rowSame b c = true) :
    rowSame a c = true :=
  (rowSame_iff a c).mpr (((rowSame_iff a b).mp h1).trans ((rowSame_iff b c).mp h2))

theorem rowSame_congr_right {r s : Row} (h : rowSame r s = true) (y : Row) :
    rowSame y r = rowSame y s := by
  rw [Bool.eq_iff_iff, rowSame_iff, rowSame_iff, (rowSame_iff r s).mp h]

theorem rowSame_congr_left {r s : Row} (h : rowSame r s = true) (y : Row) :
    rowSame r y = rowSame s y := by
  rw [rowSame_comm r, rowSame_comm s, rowSame_congr_right h]

theorem distinct_pairwise : ∀ rows : List Row,
    (distinct rows).Pairwise (fun a b => rowSame a b = false)
  | [] => List.Pairwise.nil
  | r :: rs => by
    simp only [distinct]
    refine List.Pairwise.cons ?_ ((distinct_pairwise rs).sublist List.filter_sublist)
    intro x hx
    simpa using (List.mem_filter.mp hx).2

end TurVerif.Sql
