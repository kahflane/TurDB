import TurVerif.Lemmas.KeyEncRank
/-! C26: round trip `dec (enc v ++ rest) = ok (canon v) (enc v).length`. -/
namespace TurVerif.KeyEnc

theorem vecBody_length (ds : List Nat) : (vecBody ds).length = ds.length * 4 := by
  induction ds with
  | nil => rfl
  | cons d ds ih => simp [vecBody, be_length, ih]; omega

theorem decDims_vecBody (ds rest : List Nat) (h : ds.all (· < 4294967296) = true) :
    decDims ds.length (vecBody ds ++ rest) = ds.map (fun d => vdec (venc d)) := by
  induction ds with
  | nil => rfl
  | cons d ds ih =>
    simp only [List.all_cons, Bool.and_eq_true, decide_eq_true_eq] at h
    simp only [List.length_cons, decDims, vecBody, List.append_assoc, List.map_cons]
    rw [take_be_append, drop_be_append, fromBe_be _ _ (venc_lt d h.1), ih h.2]

mutual
/-- fuel that suffices to decode the encoding of a value -/
def need : KVal → Nat
  | .array es => 1 + needL es
  | .tuple es => 1 + needL es
  | .composite _ fs => 1 + needL fs
  | .domain _ v => 1 + need v
  | _ => 1
def needL : KList → Nat
  | .nil => 1
  | .cons v vs => 1 + need v + needL vs
end

inductive LOk : LRes → KList → Nat → Prop where
  | mk (vs : KList) (n : Nat) : LOk (.ok vs n) vs n

theorem need_pos (v : KVal) : 1 ≤ need v := by
  unfold need; split <;> omega

mutual
theorem rt_all : (v : KVal) → wf v = true → ∀ fuel, need v ≤ fuel → ∀ rest,
    dec fuel (enc v ++ rest) = .ok (canon v) (enc v).length
  | v, _, 0, hf, _ => absurd (need_pos v) (by omega)
  | .null, _, fuel + 1, _, rest => rfl
  | .bool b, _, fuel + 1, _, rest => by cases b <;> rfl
  | .int n, h, fuel + 1, _, rest => by
    simp only [wf, decide_eq_true_eq] at h
    rcases int_class n with ⟨_, e⟩ | ⟨_, e, c⟩ | ⟨_, e⟩ <;> rw [e]
    case zero => subst c; simp [dec, canon]
    all_goals
      simp [dec, canon, be_length, fromBe_be 8 _ (toU_lt (by decide) n),
        toI_toU (m := 18446744073709551616) rfl h]
  | .float x, h, fuel + 1, _, rest => by
    simp only [wf, decide_eq_true_eq] at h
    rcases float_class x with ⟨n, _, e⟩ | ⟨n, c⟩
    · rw [e]; simp [canon, dec, n]
    · -- `canon` leaves a non-NaN pattern alone unless it is a zero
      have cz : x % 9223372036854775808 = 0 ∨ canon (.float x) = .float x := by
        by_cases hz : x % 9223372036854775808 = 0
        · exact .inl hz
        · exact .inr (by simp [canon, n, hz])
      cases c with
      | ninf _ e _ c => rw [e]; subst c; rfl
      | pinf _ e _ c => rw [e]; subst c; rfl
      | zero _ e _ c => rw [e]; simp [canon, dec, n, c]
      | neg _ e _ c =>
        rw [e, cz.resolve_left (by omega)]
        simp [dec, be_length, fromBe_be 8 _ (show 18446744073709551615 - x < 256 ^ 8 by omega)]
        rw [if_neg (by omega)]; congr; omega
      | pos _ e _ c =>
        rw [e, cz.resolve_left (by omega)]
        simp [dec, be_length, fromBe_be 8 _ (show x + 9223372036854775808 < 256 ^ 8 by omega), flipTop]
        rw [if_neg (by omega), if_neg (by omega)]
  | .text bs, h, fuel + 1, _, rest => by
    simp only [wf, Bool.and_eq_true] at h
    simp [enc, dec, canon, unesc_esc, h.2]
    omega
  | .blob bs, _, fuel + 1, _, rest => by
    simp [enc, dec, canon, unesc_esc]
    omega
  | .date d, h, fuel + 1, _, rest => by
    simp only [wf, decide_eq_true_eq] at h
    simp [enc, dec, canon, sfield_length, unsfield_sfield (w := 4) rfl rfl h]
  | .time d, h, fuel + 1, _, rest | .timestamp d, h, fuel + 1, _, rest => by
    simp only [wf, decide_eq_true_eq] at h
    simp [enc, dec, canon, sfield_length, unsfield_sfield (w := 8) rfl rfl h]
  | .timestamptz d z, h, fuel + 1, _, rest => by
    simp only [wf, decide_eq_true_eq, Bool.and_eq_true] at h
    simp [enc, dec, canon, sfield_length, unsfield_sfield (w := 8) rfl rfl h.1,
      unsfield_sfield (w := 2) rfl rfl h.2]
    omega
  | .interval m d u, h, fuel + 1, _, rest => by
    simp only [wf, decide_eq_true_eq, Bool.and_eq_true] at h
    have e : List.drop 8 (sfield 4 4294967296 m ++ (sfield 4 4294967296 d ++
        (sfield 8 18446744073709551616 u ++ rest))) = sfield 8 18446744073709551616 u ++ rest := by
      rw [← List.append_assoc]; exact List.drop_left' (by simp [sfield_length])
    simp [enc, dec, canon, sfield_length, e, unsfield_sfield (w := 4) rfl rfl h.1.1,
      unsfield_sfield (w := 4) rfl rfl h.1.2, unsfield_sfield (w := 8) rfl rfl h.2]
    omega
  | .uuid bs, h, fuel + 1, _, rest | .macaddr bs, h, fuel + 1, _, rest => by
    simp only [wf, decide_eq_true_eq, Bool.and_eq_true] at h
    simp [enc, dec, canon, h.2]
  | .inet v p a, h, fuel + 1, _, rest => by
    simp only [wf, decide_eq_true_eq, Bool.and_eq_true] at h
    cases v <;> simp [enc, dec, canon, h.2] <;> rw [if_neg (by omega), if_neg (by omega)]
  | .enum t o, h, fuel + 1, _, rest => by
    simp only [wf, decide_eq_true_eq, Bool.and_eq_true] at h
    simp [enc, dec, canon, be_length, fromBe_be 4 t h.1, fromBe_be 4 o h.2]
    omega
  | .vector ds, h, fuel + 1, _, rest => by
    simp only [wf, decide_eq_true_eq, Bool.and_eq_true] at h
    simp [enc, canon, dec, be_length, vecBody_length]
    rw [if_neg (by omega), fromBe_be 4 _ h.2, if_neg (by omega),
      decDims_vecBody ds rest h.1]
    simp; omega
  | .array es, h, fuel + 1, hf, rest | .tuple es, h, fuel + 1, hf, rest => by
    simp only [wf] at h
    simp only [need] at hf
    simp [enc, canon, dec, rt_elems es h fuel (by omega) rest]; omega
  | .composite t es, h, fuel + 1, hf, rest => by
    simp only [wf, decide_eq_true_eq, Bool.and_eq_true] at h
    simp only [need] at hf
    simp [enc, canon, dec, be_length, rt_elems es h.2 fuel (by omega) rest]
    rw [if_neg (by omega), fromBe_be 4 t h.1]
    simp; omega
  | .domain t v, h, fuel + 1, hf, rest => by
    simp only [wf, decide_eq_true_eq, Bool.and_eq_true] at h
    simp only [need] at hf
    simp [enc, canon, dec, be_length, rt_all v h.2 fuel (by omega) rest]
    rw [if_neg (by omega), fromBe_be 4 t h.1]
    simp; omega
theorem rt_elems : (es : KList) → wfList es = true → ∀ fuel, needL es ≤ fuel → ∀ rest,
    decElems fuel (encElems es ++ rest) false = .ok (canonList es) (encElems es).length
  | es, _, 0, hf, _ => by cases es <;> simp [needL] at hf
  | .nil, _, fuel + 1, _, rest => by simp [encElems, decElems, canonList]
  | .cons v vs, h, fuel + 1, hf, rest => by
    simp only [wfList, Bool.and_eq_true] at h
    simp only [needL] at hf
    -- at the first position an element is recognised by its nonzero prefix byte
    obtain ⟨t1, e⟩ := enc_rank v
    have h1 := rt_all v h.1 fuel (by omega) (encRest vs ++ rest)
    rw [e, List.cons_append] at h1
    simp [encElems, e, decElems, rank_ne_zero v, h1, rt_rest vs h.2 fuel (by omega) rest, canonList]
    omega
theorem rt_rest : (es : KList) → wfList es = true → ∀ fuel, needL es ≤ fuel → ∀ rest,
    decElems fuel (encRest es ++ rest) true = .ok (canonList es) (encRest es).length
  | es, _, 0, hf, _ => by cases es <;> simp [needL] at hf
  | .nil, _, fuel + 1, _, rest => by simp [encRest, decElems, canonList]
  | .cons v vs, h, fuel + 1, hf, rest => by
    simp only [wfList, Bool.and_eq_true] at h
    simp only [needL] at hf
    simp [encRest, decElems, canonList, rt_all v h.1 fuel (by omega) (encRest vs ++ rest),
      rt_rest vs h.2 fuel (by omega) rest]
    omega
end

end TurVerif.KeyEnc
