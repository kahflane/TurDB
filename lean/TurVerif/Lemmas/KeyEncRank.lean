import TurVerif.Lemmas.KeyEncBasic
/-! C26: the type-prefix byte (`rank`) of a key and what it tells about the value. -/
namespace TurVerif.KeyEnc

/-- the sign classes of `encode_int`: rank and key of `Int n` in each -/
inductive IntClass (n : Int) : Prop
  | neg (r : rank (.int n) = 0x12) (e : enc (.int n) = 0x12 :: be 8 (toU 18446744073709551616 n))
      (h : n < 0)
  | zero (r : rank (.int n) = 0x14) (e : enc (.int n) = [0x14]) (h : n = 0)
  | pos (r : rank (.int n) = 0x16) (e : enc (.int n) = 0x16 :: be 8 (toU 18446744073709551616 n))
      (h : 0 < n)

theorem int_class (n : Int) : IntClass n := by
  by_cases h1 : n < 0
  · refine .neg ?_ ?_ h1 <;> simp only [rank, enc, if_pos h1]
  · by_cases h2 : n = 0
    · refine .zero ?_ ?_ h2 <;> simp only [rank, enc, if_neg h1, if_pos h2]
    · refine .pos ?_ ?_ (by omega) <;> simp only [rank, enc, if_neg h1, if_neg h2]

/-- the classes of a non-NaN f64 pattern in `encode_float`, in the order the code tests them: rank,
key and the sign-magnitude position `fpos` that the specification order compares -/
inductive FiniteClass (x : Nat) : Prop
  | ninf (r : rank (.float x) = 0x10) (e : enc (.float x) = [0x10])
      (p : fpos 9223372036854775808 x = -9218868437227405312) (h : x = 18442240474082181120)
  | pinf (r : rank (.float x) = 0x18) (e : enc (.float x) = [0x18])
      (p : fpos 9223372036854775808 x = 9218868437227405312) (h : x = 9218868437227405312)
  | neg (r : rank (.float x) = 0x13) (e : enc (.float x) = 0x13 :: be 8 (18446744073709551615 - x))
      (p : fpos 9223372036854775808 x = 9223372036854775808 - (x : Int))
      (h : x ≠ 18442240474082181120 ∧ x > 9223372036854775808)
  | zero (r : rank (.float x) = 0x14) (e : enc (.float x) = [0x14])
      (p : fpos 9223372036854775808 x = 0) (h : x % 9223372036854775808 = 0)
  | pos (r : rank (.float x) = 0x15) (e : enc (.float x) = 0x15 :: be 8 (x + 9223372036854775808))
      (p : fpos 9223372036854775808 x = x)
      (h : x ≠ 9218868437227405312 ∧ x < 9223372036854775808 ∧ x ≠ 0)

theorem float_class (x : Nat) :
    (isNan64 x = true ∧ rank (.float x) = 0x19 ∧ enc (.float x) = [0x19]) ∨
    (isNan64 x = false ∧ FiniteClass x) := by
  by_cases h0 : isNan64 x = true
  · refine .inl ⟨h0, ?_, ?_⟩ <;> simp only [rank, enc, if_pos h0]
  refine .inr ⟨by simpa using h0, ?_⟩
  by_cases h1 : x = 18442240474082181120
  · refine .ninf ?_ ?_ (by subst h1; rfl) h1 <;> simp only [rank, enc, if_neg h0, if_pos h1]
  by_cases h2 : x = 9218868437227405312
  · refine .pinf ?_ ?_ (by subst h2; rfl) h2 <;>
      simp only [rank, enc, if_neg h0, if_neg h1, if_pos h2]
  by_cases h3 : x > 9223372036854775808
  · refine .neg ?_ ?_ (by unfold fpos; omega) ⟨h1, h3⟩ <;>
      simp only [rank, enc, if_neg h0, if_neg h1, if_neg h2, if_pos h3]
  by_cases h4 : x % 9223372036854775808 = 0
  · refine .zero ?_ ?_ (by unfold fpos; omega) h4 <;>
      simp only [rank, enc, if_neg h0, if_neg h1, if_neg h2, if_neg h3, if_pos h4]
  · have hx : x < 9223372036854775808 := by omega
    refine .pos ?_ ?_ (if_pos hx) ⟨h2, hx, by omega⟩ <;>
      simp only [rank, enc, flipTop, if_neg h0, if_neg h1, if_neg h2, if_neg h3, if_neg h4, if_pos hx]

/-- every encoding starts with the documented type-prefix byte of its value -/
theorem enc_rank (v : KVal) : ∃ t, enc v = rank v :: t := by
  cases v
  case bool b => cases b <;> exact ⟨_, rfl⟩
  case int n => rcases int_class n with ⟨r, e⟩ | ⟨r, e⟩ | ⟨r, e⟩ <;> exact ⟨_, r ▸ e⟩
  case float x =>
    rcases float_class x with ⟨_, r, e⟩ | ⟨_, ⟨r, e⟩ | ⟨r, e⟩ | ⟨r, e⟩ | ⟨r, e⟩ | ⟨r, e⟩⟩ <;> exact ⟨_, r ▸ e⟩
  all_goals exact ⟨_, rfl⟩

/-- the prefix table read backwards (as `decode_key` dispatches on it): the rank tells the kind of
a value, except that `0x14` is shared by `Int 0` and `Float ±0`, whose whole key it is -/
def KindAt (r : Nat) (b : KVal) : Prop :=
  match r with
    | 0x01 => b = .null
    | 0x02 | 0x03 => ∃ y, b = .bool y
    | 0x12 | 0x16 => ∃ y, b = .int y
    | 0x14 => enc b = [0x14]
    | 0x10 | 0x13 | 0x15 | 0x18 | 0x19 => ∃ y, b = .float y
    | 0x20 => ∃ y, b = .text y
    | 0x21 => ∃ y, b = .blob y
    | 0x30 => ∃ y, b = .date y
    | 0x31 => ∃ y, b = .time y
    | 0x32 => ∃ y, b = .timestamp y
    | 0x33 => ∃ y z, b = .timestamptz y z
    | 0x34 => ∃ m d u, b = .interval m d u
    | 0x40 => ∃ y, b = .uuid y
    | 0x41 => ∃ v p y, b = .inet v p y
    | 0x42 => ∃ y, b = .macaddr y
    | 0x60 => ∃ y, b = .array y
    | 0x61 => ∃ y, b = .tuple y
    | 0x63 => ∃ t o, b = .enum t o
    | 0x64 => ∃ t y, b = .composite t y
    | 0x65 => ∃ t y, b = .domain t y
    | 0x70 => ∃ y, b = .vector y
    | _ => False

theorem rank_inv (b : KVal) : KindAt (rank b) b := by
  cases b
  case null => rfl
  case bool x => cases x <;> exact ⟨_, rfl⟩
  case int n =>
    rcases int_class n with ⟨r, e⟩ | ⟨r, e⟩ | ⟨r, e⟩ <;> rw [r] <;>
      first | exact ⟨_, rfl⟩ | exact e
  case float x =>
    rcases float_class x with ⟨_, r, e⟩ | ⟨_, ⟨r, e⟩ | ⟨r, e⟩ | ⟨r, e⟩ | ⟨r, e⟩ | ⟨r, e⟩⟩ <;> rw [r] <;> first | exact ⟨_, rfl⟩ | exact e
  all_goals
    simp only [rank]
    first | exact ⟨_, rfl⟩ | exact ⟨_, _, rfl⟩ | exact ⟨_, _, _, rfl⟩

theorem rank_ne_zero (v : KVal) : rank v ≠ 0 := fun h => by
  have t := rank_inv v
  rwa [h] at t

end TurVerif.KeyEnc
