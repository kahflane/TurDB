import TurVerif.Model.Wal
/-!
What the theorems of C03 rest on, about the model `TurVerif.Wal`.

A file of whole frames reads back as those frames (`readAll_cellsOf`).  `Inv w L`: the segment files
and the BufWriter of `w` hold exactly the frames `L`, whole and in write order, and the OS cursor
is at the end of the current file; every operation except the `reopen`/`truncate` of the code as
found keeps it (`Inv.*`), so that replaying the directory yields `L` (`Inv.scan`).  `step_InvC` /
`run_InvC` run the model and the ideal log side by side.  `applyFrames_spec`: replay into a storage.
Damage: a cut at cell `n` leaves `n / 4` frames readable, a garbage cell reads like a cut at that
cell, and the ideal segment keeps as many entries (`faulted_segment`).
-/
namespace TurVerif.C03
open TurVerif.Wal

theorem decode_frameCells (z : Bool) (f : Frame) :
    decodeSlot z (.fr f 0) (.fr f 1) (.fr f 2) (.fr f 3) = some f := by
  simp [decodeSlot]

theorem decodeSlot_junk (z : Bool) (a b c d : Cell) (h : Cell.junk ∈ [a, b, c, d]) :
    decodeSlot z a b c d = none := by
  unfold decodeSlot
  split
  · simp at h
  · simp at h
  · rfl

def cellsOf (fs : List Frame) : List Cell := fs.flatMap frameCells

theorem cellsOf_cons (f : Frame) (fs : List Frame) : cellsOf (f :: fs) = frameCells f ++ cellsOf fs :=
  List.flatMap_cons
theorem cellsOf_append (a b : List Frame) : cellsOf (a ++ b) = cellsOf a ++ cellsOf b :=
  List.flatMap_append
theorem cellsOf_length (fs : List Frame) : (cellsOf fs).length = 4 * fs.length := by
  induction fs with
  | nil => rfl
  | cons f fs ih => rw [cellsOf_cons, List.length_append, ih]; simp [frameCells]; omega

theorem readAll_short (z : Bool) (cells : List Cell) (h : cells.length < 4) : readAll z cells = [] := by
  unfold readAll
  split
  · simp at h; omega
  · rfl

theorem readAll_frameCells (z : Bool) (f : Frame) (rest : List Cell) :
    readAll z (frameCells f ++ rest) = f :: readAll z rest := by
  show readAll z (.fr f 0 :: .fr f 1 :: .fr f 2 :: .fr f 3 :: rest) = _
  rw [readAll, decode_frameCells]

theorem readAll_cellsOf_append (z : Bool) (fs : List Frame) (rest : List Cell) :
    readAll z (cellsOf fs ++ rest) = fs ++ readAll z rest := by
  induction fs with
  | nil => rfl
  | cons f fs ih => rw [cellsOf_cons, List.append_assoc, readAll_frameCells, ih]; rfl

theorem readAll_cellsOf (z : Bool) (fs : List Frame) : readAll z (cellsOf fs) = fs := by
  have := readAll_cellsOf_append z fs []
  rwa [List.append_nil, readAll_short z [] (by decide), List.append_nil] at this

theorem scanDisk_eq (z : Bool) (d : List (Nat × List Cell)) :
    scanDisk z d = (d.map (·.2)).flatMap (readAll z) := by
  rw [List.flatMap_map]; rfl

theorem flatMap_readAll_cellsOf (z : Bool) (segs : List (List Frame)) :
    (segs.map cellsOf).flatMap (readAll z) = segs.flatten := by
  induction segs with
  | nil => rfl
  | cons s ss ih => rw [List.map_cons, List.flatMap_cons, readAll_cellsOf, ih, List.flatten_cons]

/-- the segment files and the BufWriter hold whole frames, in write order `L`, and the OS cursor of
the append handle is at the end of the current segment file -/
structure Inv (w : Wal) (L : List Frame) : Prop where
  cursor : w.file.cursor = w.file.cells.length
  framed : ∃ (segs : List (List Frame)) (cur : List Frame),
    w.closed.map (·.2) = segs.map cellsOf ∧ w.file.cells ++ w.buf = cellsOf cur ∧
    segs.flatten ++ cur = L

theorem Inv.congr {w w' : Wal} {L : List Frame} (h : Inv w L) (h1 : w'.file = w.file)
    (h2 : w'.buf = w.buf) (h3 : w'.closed = w.closed) : Inv w' L := by
  obtain ⟨hc, segs, cur, a, b, c⟩ := h
  exact ⟨by rw [h1]; exact hc, segs, cur, by rw [h3]; exact a, by rw [h1, h2]; exact b, c⟩

theorem flush_buf (w : Wal) : (flush w).buf = [] := by
  unfold flush
  split
  · assumption
  · rfl

theorem flush_closed (w : Wal) : (flush w).closed = w.closed := by
  unfold flush; split <;> rfl

theorem flush_fixed (w : Wal) : (flush w).fixed = w.fixed := by
  unfold flush; split <;> rfl

theorem flush_file (w : Wal) (h : w.file.cursor = w.file.cells.length) :
    (flush w).file.cells = w.file.cells ++ w.buf ∧
    (flush w).file.cursor = (flush w).file.cells.length := by
  unfold flush
  split
  · next hb => simp [hb, h]
  · next hb => simp [File.write, h, hb]

theorem Inv.flush_framed {w : Wal} {L : List Frame} (h : Inv w L) :
    ∃ (segs : List (List Frame)) (cur : List Frame),
      (flush w).closed.map (·.2) = segs.map cellsOf ∧ (flush w).file.cells = cellsOf cur ∧
      segs.flatten ++ cur = L ∧ (flush w).file.cursor = (flush w).file.cells.length := by
  obtain ⟨hc, segs, cur, a, b, c⟩ := h
  obtain ⟨f1, f2⟩ := flush_file w hc
  exact ⟨segs, cur, by rw [flush_closed]; exact a, by rw [f1]; exact b, c, f2⟩

theorem Inv.flushed {w : Wal} {L : List Frame} (h : Inv w L) : Inv (flush w) L := by
  obtain ⟨segs, cur, a, b, c, d⟩ := h.flush_framed
  exact ⟨d, segs, cur, a, by rw [flush_buf, List.append_nil]; exact b, c⟩

theorem Inv.flushedIf {w : Wal} {L : List Frame} (h : Inv w L) (c : Bool) :
    Inv (if c then flush w else w) L := by
  cases c
  · exact h
  · exact h.flushed

theorem Inv.on_disk {w : Wal} {L : List Frame} (h : Inv w L) :
    ∃ (older : List (List Frame)) (cur : List Frame),
      (disk w).map (·.2) = (older ++ [cur]).map cellsOf ∧ (older ++ [cur]).flatten = L := by
  obtain ⟨segs, cur, a, b, c, _⟩ := h.flush_framed
  refine ⟨segs, cur, ?_, by rw [List.flatten_concat]; exact c⟩
  unfold disk diskLive
  rw [List.map_append, a, List.map_append, List.map_cons, List.map_cons, b]; rfl

theorem Inv.scan {w : Wal} {L : List Frame} (z : Bool) (h : Inv w L) : scanDisk z (disk w) = L := by
  obtain ⟨older, cur, hd, hL⟩ := h.on_disk
  rw [scanDisk_eq, hd, flatMap_readAll_cellsOf, hL]

theorem Inv.created (fixed zfix : Bool) (salt : Nat) : Inv (create fixed zfix salt) [] :=
  ⟨rfl, [], [], rfl, rfl, rfl⟩

theorem Inv.segWrite {w : Wal} {L : List Frame} (h : Inv w L) (f : Frame) (sync : Bool) :
    Inv (segWriteFrame w f sync) (L ++ [f]) := by
  have h1 : Inv { w with buf := w.buf ++ frameCells f } (L ++ [f]) := by
    obtain ⟨hc, segs, cur, a, b, c⟩ := h
    refine ⟨hc, segs, cur ++ [f], a, ?_, by rw [← List.append_assoc, c]⟩
    show w.file.cells ++ (w.buf ++ frameCells f) = cellsOf (cur ++ [f])
    rw [cellsOf_append, ← b, List.append_assoc]; rfl
  exact (h1.flushedIf sync).congr rfl rfl rfl

theorem Inv.rotated {w : Wal} {L : List Frame} (h : Inv w L) : Inv (rotate w) L := by
  obtain ⟨segs, cur, a, b, c, _⟩ := h.flush_framed
  refine ⟨rfl, segs ++ [cur], [], ?_, rfl, by rw [List.append_nil, List.flatten_concat]; exact c⟩
  show ((flush w).closed ++ [((flush w).seq, (flush w).file.cells)]).map (·.2) = _
  rw [List.map_append, a, List.map_append, List.map_cons, List.map_cons, b]; rfl

theorem Inv.wframe {w : Wal} {L : List Frame} (h : Inv w L) (f p d i : Nat) :
    ∃ L', Inv (writeFrame w f p d i) (L ++ L') ∧ L'.map Frame.core = [⟨f, p, d, i⟩] := by
  generalize hw0 : (if needsRotation w then rotate w else w) = w0
  have h0 : Inv w0 L := by
    rw [← hw0]; split
    · exact h.rotated
    · exact h
  -- on top of the segment write, `writeFrame` only records the index entry and the frame count
  refine ⟨[⟨f, p, d, w0.salt, i⟩], (h0.segWrite _ w0.syncFull).congr ?_ ?_ ?_, rfl⟩ <;>
    (unfold writeFrame; rw [hw0])

/-- the caller-visible part of the frames of a batch -/
def quadCore (e : Nat × Nat × Nat × Nat) : SFrame := ⟨e.1, e.2.1, e.2.2.1, e.2.2.2⟩

theorem Inv.bloop {w : Wal} {L : List Frame} (h : Inv w L) (fs : List (Nat × Nat × Nat × Nat))
    (md : List (Key × Loc)) :
    ∃ L', Inv (batchLoop w fs md).1 (L ++ L') ∧ L'.map Frame.core = fs.map quadCore := by
  induction fs generalizing w L md with
  | nil => exact ⟨[], by rw [List.append_nil]; exact h, rfl⟩
  | cons e es ih =>
    obtain ⟨f, p, d, i⟩ := e
    obtain ⟨L', hi, hm⟩ := ih (h.segWrite ⟨f, p, d, w.salt, i⟩ false)
      (md ++ [((f, p), (w.seq, w.offset))])
    rw [List.append_assoc] at hi
    exact ⟨⟨f, p, d, w.salt, i⟩ :: L', hi, by rw [List.map_cons, List.map_cons, hm]; rfl⟩

theorem Inv.wbatch {w : Wal} {L : List Frame} (h : Inv w L) (s : Bool)
    (fs : List (Nat × Nat × Nat × Nat)) :
    ∃ L', Inv (writeBatch w s fs) (L ++ L') ∧ L'.map Frame.core = fs.map quadCore := by
  obtain ⟨L', hi, hm⟩ := h.bloop fs []
  refine ⟨L', ?_, hm⟩
  unfold writeBatch
  generalize batchLoop w fs [] = r at hi
  obtain ⟨w1, md⟩ := r
  exact (hi.flushedIf _).congr rfl rfl rfl

/-! ### fixed code: reopen and truncate keep the invariant -/

theorem Inv.reopened {w : Wal} {L : List Frame} (h : Inv w L) (hf : w.fixed = true) (s : Nat) :
    Inv (reopen w s) L := by
  obtain ⟨segs, cur, a, b, c, _⟩ := h.flush_framed
  unfold reopen openDisk disk diskLive
  rw [List.getLast?_concat]
  simp only [List.dropLast_concat, hf, if_true]
  exact ⟨rfl, segs, cur, a, by rw [List.append_nil]; exact b, c⟩

theorem truncate_fixed (w : Wal) (hf : w.fixed = true) :
    (truncate w).file = ⟨[], 0⟩ ∧ (truncate w).buf = [] ∧ (truncate w).closed = [] := by
  unfold truncate
  simp [hf, File.setLen, File.seek, flush_buf]

theorem Inv.truncated (w : Wal) (hf : w.fixed = true) : Inv (truncate w) [] := by
  obtain ⟨a, b, c⟩ := truncate_fixed w hf
  exact ⟨by rw [a]; rfl, [], [], by rw [c]; rfl, by rw [a, b]; rfl, rfl⟩

/-! `fixed` is a constant of the handle -/

theorem segWriteFrame_fixed (w : Wal) (f : Frame) (s : Bool) : (segWriteFrame w f s).fixed = w.fixed := by
  cases s
  · rfl
  · exact flush_fixed _

theorem batchLoop_fixed (w : Wal) (fs : List (Nat × Nat × Nat × Nat)) (md : List (Key × Loc)) :
    (batchLoop w fs md).1.fixed = w.fixed := by
  induction fs generalizing w md with
  | nil => rfl
  | cons e es ih =>
    obtain ⟨f, p, d, i⟩ := e
    rw [batchLoop, ih, segWriteFrame_fixed]

theorem step_fixed (w : Wal) (op : Op) : (step w op).fixed = w.fixed := by
  cases op with
  | write f p d i =>
    simp only [step, writeFrame, segWriteFrame_fixed]
    split
    · exact flush_fixed w
    · rfl
  | batch s fs =>
    have := batchLoop_fixed w fs []
    simp only [step, writeBatch]
    split <;> simp only [flush_fixed, this]
  | setSync full => rfl
  | sync => exact flush_fixed w
  | rotate => exact flush_fixed w
  | truncate =>
    simp only [step, truncate]
    split <;> exact flush_fixed _
  | reopen s =>
    simp only [step, reopen, openDisk]
    split <;> rfl

theorem run_fixed (ops : List Op) : ∀ w : Wal, (run w ops).fixed = w.fixed := by
  induction ops with
  | nil => intro w; rfl
  | cons o os ih => intro w; exact (ih (step w o)).trans (step_fixed w o)

/-- an operation other than `reopen` and `truncate`: the two that move the append cursor of the
pinned code away from the end of the file (`Inv.reopened`, `Inv.truncated` need `fixed`) -/
def createOnly : Op → Bool
  | .reopen _ => false
  | .truncate => false
  | _ => true

/-- `specStep` seen on the flattened, undamaged log (`specStep_flatten`) -/
def nextLog (C : List SFrame) : Op → List SFrame
  | .write f p d i => C ++ [⟨f, p, d, i⟩]
  | .batch _ fs => C ++ fs.map quadCore
  | .truncate => []
  | _ => C

theorem sAppend_flatten (l : SLog) (es : List (Option SFrame)) :
    (sAppend l es).flatten = l.flatten ++ es := by
  rcases List.eq_nil_or_concat l with rfl | ⟨L, b, rfl⟩ <;> simp [sAppend]

theorem specStep_flatten (l : SLog) (C : List SFrame) (op : Op) (h : l.flatten = C.map some) :
    (specStep l op).flatten = (nextLog C op).map some := by
  cases op <;> simp [specStep, sAppend_flatten, h, nextLog, quadCore, Function.comp_def]

/-- a log that starts with the intact entries `C` and goes on with `X`, whose first entry (if there is
one) is damaged: `C` is its longest valid prefix -/
theorem validPrefix_somes (l : SLog) (C : List SFrame) (X : List (Option SFrame))
    (h : l.flatten = C.map some ++ X) (hX : X.takeWhile Option.isSome = []) : validPrefix l = C := by
  unfold validPrefix
  rw [h]
  clear h
  induction C with
  | nil => rw [List.map_nil, List.nil_append, hX]; rfl
  | cons c cs ih =>
    rw [List.map_cons, List.cons_append, List.takeWhile_cons_of_pos rfl]
    exact congrArg (c :: ·) ih

/-- the model-side invariant with the salts forgotten -/
def InvC (w : Wal) (C : List SFrame) : Prop := ∃ L, Inv w L ∧ L.map Frame.core = C

theorem step_InvC (w : Wal) (op : Op) (C : List SFrame) (h : InvC w C)
    (hop : createOnly op = true ∨ w.fixed = true) : InvC (step w op) (nextLog C op) := by
  obtain ⟨L, hi, hm⟩ := h
  cases op with
  | write f p d i =>
    obtain ⟨L', h1, h2⟩ := hi.wframe f p d i
    exact ⟨_, h1, by rw [List.map_append, hm, h2]; rfl⟩
  | batch s fs =>
    obtain ⟨L', h1, h2⟩ := hi.wbatch s fs
    exact ⟨_, h1, by rw [List.map_append, hm, h2]; rfl⟩
  | setSync full => exact ⟨L, hi.congr rfl rfl rfl, hm⟩
  | sync => exact ⟨L, hi.flushed, hm⟩
  | rotate => exact ⟨L, hi.rotated, hm⟩
  | truncate => exact ⟨[], Inv.truncated w (hop.resolve_left Bool.false_ne_true), rfl⟩
  | reopen s => exact ⟨L, hi.reopened (hop.resolve_left Bool.false_ne_true) s, hm⟩

theorem run_InvC (ops : List Op) (w : Wal) (C : List SFrame) (l : SLog) (h : InvC w C)
    (hl : l.flatten = C.map some) (hop : ∀ op ∈ ops, createOnly op = true ∨ w.fixed = true) :
    ∃ C', InvC (run w ops) C' ∧ (ops.foldl specStep l).flatten = C'.map some := by
  induction ops generalizing w C l with
  | nil => exact ⟨C, h, hl⟩
  | cons op ops ih =>
    exact ih (step w op) (nextLog C op) (specStep l op)
      (step_InvC w op C h (hop op List.mem_cons_self)) (specStep_flatten l C op hl)
      fun o ho => (hop o (List.mem_cons_of_mem _ ho)).imp id fun b => by rw [step_fixed]; exact b

theorem run_create_InvC (ops : List Op) (fixed zfix : Bool) (salt : Nat)
    (hop : (∀ op ∈ ops, createOnly op = true) ∨ fixed = true) :
    InvC (run (create fixed zfix salt) ops) (validPrefix (specLog ops)) := by
  obtain ⟨C', hi, hs⟩ := run_InvC ops (create fixed zfix salt) [] [[]]
    ⟨[], Inv.created fixed zfix salt, rfl⟩ rfl fun op h => hop.imp (· op h) id
  have : validPrefix (specLog ops) = C' :=
    validPrefix_somes _ _ [] (by rw [List.append_nil]; exact hs) rfl
  rw [this]; exact hi

theorem replay_of_run (ops : List Op) (fixed zfix : Bool) (salt : Nat)
    (hop : (∀ op ∈ ops, createOnly op = true) ∨ fixed = true) :
    (scanDisk zfix (disk (run (create fixed zfix salt) ops))).map Frame.core
      = validPrefix (specLog ops) := by
  obtain ⟨L, hi, hm⟩ := run_create_InvC ops fixed zfix salt hop
  rw [hi.scan zfix, hm]

theorem grow_pages (s : Storage) (n : Nat) : (s.grow n).pages = s.pages := by
  unfold Storage.grow; split <;> rfl

theorem le_grow_pageCount (s : Storage) (n : Nat) : n ≤ (s.grow n).pageCount := by
  unfold Storage.grow
  split
  · assumption
  · exact Nat.le_refl n

/-- one frame always applies (the storage is grown first), and overwrites exactly its page -/
theorem applyFrame_some (s : Storage) (f : Frame) :
    ∃ s1, applyFrame s f = some s1 ∧
      ∀ p, s1.get p = if f.pageNo = p then f.img else s.get p := by
  unfold applyFrame
  generalize hs0 : (if s.pageCount ≤ f.pageNo then s.grow (max f.dbSize (f.pageNo + 1)) else s) = s0
  have hp : s0.pages = s.pages ∧ f.pageNo < s0.pageCount := by
    rw [← hs0]
    split
    · exact ⟨grow_pages _ _, Nat.lt_of_lt_of_le (Nat.le_max_right f.dbSize (f.pageNo + 1))
        (le_grow_pageCount _ _)⟩
    · exact ⟨rfl, by omega⟩
  refine ⟨{ s0 with pages := (f.pageNo, f.img) :: s0.pages }, by simp [Storage.setPage, hp.2],
    fun p => ?_⟩
  unfold Storage.get
  rw [hp.1, List.find?_cons]
  by_cases hq : f.pageNo = p
  · simp [hq]
  · simp [hq, beq_eq_false_iff_ne.mpr hq]

/-- the file filter of `recover_for_file` (`recover` keeps everything) -/
def keep (only : Option Nat) (f : Frame) : Bool := !(only.isSome && only != some f.fileId)

/-- replay never fails, applies exactly the frames that pass the filter, and leaves every page with
the image of the last of them that names it -/
theorem applyFrames_spec (only : Option Nat) (s : Storage) (fs acc : List Frame) :
    ∃ s', applyFrames only s fs acc = .ok s' (acc ++ fs.filter (keep only)) ∧
      ∀ p, s'.get p = (fs.filter (keep only)).foldl
        (fun a f => if f.pageNo = p then f.img else a) (s.get p) := by
  induction fs generalizing s acc with
  | nil => exact ⟨s, by simp [applyFrames], fun _ => rfl⟩
  | cons f fs ih =>
    unfold applyFrames
    have hc : (only.isSome && only != some f.fileId) = !keep only f := (Bool.not_not _).symm
    cases hk : keep only f with
    | true =>
      obtain ⟨s1, h1, hg⟩ := applyFrame_some s f
      obtain ⟨s', h, hget⟩ := ih s1 (acc ++ [f])
      refine ⟨s', ?_, fun p => ?_⟩
      · simp only [hc, hk, h1, Bool.not_true, Bool.false_eq_true, if_false]
        rw [h, List.filter_cons_of_pos hk, List.append_assoc]; rfl
      · rw [hget, List.filter_cons_of_pos hk, List.foldl_cons, hg]
    | false =>
      have hk' : ¬ keep only f = true := by rw [hk]; decide
      obtain ⟨s', h, hget⟩ := ih s acc
      exact ⟨s', by simp only [hc, hk, Bool.not_false, if_true]; rw [h, List.filter_cons_of_neg hk'],
        fun p => by rw [hget, List.filter_cons_of_neg hk']⟩

/-- behind the `ensure!(frame_start + FRAME ≤ len)` guard the slice of one frame is exactly `FS` cells -/
theorem slice_four (cells : List Cell) (off : Nat) (h : off + FS ≤ cells.length) :
    ∃ a b c d, slice cells off FS = some [a, b, c, d] := by
  unfold slice
  simp only [h, if_true]
  have hl : ((cells.drop off).take FS).length = 4 := by
    rw [List.length_take, List.length_drop]; unfold FS at h ⊢; omega
  match hm : (cells.drop off).take FS, hl with
  | [a, b, c, d], _ => exact ⟨a, b, c, d, rfl⟩

theorem take_cellsOf (fs : List Frame) (n : Nat) :
    ∃ p, (cellsOf fs).take n = cellsOf (fs.take (n / 4)) ++ p ∧ p.length < 4 := by
  induction fs generalizing n with
  | nil => exact ⟨[], by simp [cellsOf], by decide⟩
  | cons f fs ih =>
    by_cases h : n < 4
    · exact ⟨_, by rw [Nat.div_eq_of_lt h]; rfl, Nat.lt_of_le_of_lt (List.length_take_le _ _) h⟩
    · obtain ⟨m, rfl⟩ : ∃ m, n = m + 4 := ⟨n - 4, (Nat.sub_add_cancel (Nat.le_of_not_lt h)).symm⟩
      obtain ⟨p, hp, hl⟩ := ih m
      refine ⟨p, ?_, hl⟩
      rw [Nat.add_div_right _ (by decide), List.take_succ_cons, cellsOf_cons, cellsOf_cons,
        List.append_assoc, ← hp]
      rfl

theorem readAll_take (z : Bool) (fs : List Frame) (n : Nat) :
    readAll z ((cellsOf fs).take n) = fs.take (n / 4) := by
  obtain ⟨p, hp, hl⟩ := take_cellsOf fs n
  rw [hp, readAll_cellsOf_append, readAll_short z p hl, List.append_nil]

theorem readAll_junk_within (z : Bool) (p rest : List Cell) (hp : p.length < 4) :
    readAll z (p ++ .junk :: rest) = [] := by
  unfold readAll
  split
  · next a b c d r heq =>
    have : Cell.junk ∈ (p ++ .junk :: rest).take 4 := by
      obtain ⟨k, hk⟩ := Nat.exists_eq_succ_of_ne_zero (Nat.sub_ne_zero_of_lt hp)
      rw [List.take_append, List.take_of_length_le (Nat.le_of_lt hp), hk]
      exact List.mem_append_right _ List.mem_cons_self
    rw [heq] at this
    rw [decodeSlot_junk z a b c d this]
  · rfl

theorem setCells_one (cells : List Cell) (c : Nat) (v : Cell) :
    setCells cells c (c + 1) v
      = cells.take c ++ ((cells.drop c).take 1).map (fun _ => v) ++ (cells.drop c).drop 1 := by
  simp [setCells, List.drop_drop]

/-- a corrupted cell stops the reader where a cut at that cell would -/
theorem readAll_junk (z : Bool) (fs : List Frame) (c : Nat) :
    readAll z (setCells (cellsOf fs) c (c + 1) .junk) = fs.take (c / 4) := by
  obtain ⟨p, hp, hl⟩ := take_cellsOf fs c
  rw [setCells_one, hp]
  cases (cellsOf fs).drop c with
  | nil => simp [readAll_cellsOf_append, readAll_short z p hl]
  | cons x xs => simp [readAll_cellsOf_append, readAll_junk_within z p xs hl]

theorem mapNth_none (es : List (Option SFrame)) (k : Nat) :
    ∃ X, mapNth (fun _ => none) es k = es.take k ++ X ∧ X.takeWhile Option.isSome = [] := by
  induction es generalizing k with
  | nil => exact ⟨[], by simp [mapNth], rfl⟩
  | cons x xs ih =>
    cases k with
    | zero => exact ⟨none :: xs, rfl, rfl⟩
    | succ k =>
      obtain ⟨X, h, hX⟩ := ih k
      exact ⟨X, by rw [mapNth, h]; rfl, hX⟩

theorem map_snd_mapNth (g : List Cell → List Cell) (d : List (Nat × List Cell)) (k : Nat) :
    (mapNth (fun e => (e.1, g e.2)) d k).map (·.2) = mapNth g (d.map (·.2)) k := by
  induction d generalizing k with
  | nil => rfl
  | cons e es ih =>
    cases k with
    | zero => rfl
    | succ k => simp only [mapNth, List.map_cons, ih]

theorem mapNth_last {α : Type} (f : α → α) (l : List α) (a : α) {n : Nat} (h : n = l.length) :
    mapNth f (l ++ [a]) n = l ++ [f a] := by
  subst h
  induction l with
  | nil => rfl
  | cons x xs ih => simp [mapNth, ih]

/-- the kinds of damage `faulted_last_segment_prefix` covers on the newest segment: truncation at any
cell offset and corruption of any cell.  Zero fills are not covered, with or without the
zero-frame fix: `false && z` is `false`. -/
def faultHandled (z : Bool) : Fault → Bool
  | .zero _ _ _ => false && z
  | _ => true

theorem flatten_somes (older : List (List Frame)) :
    (older.map (fun s => s.map (fun f => some f.core))).flatten
      = (older.flatten.map Frame.core).map some := by
  induction older with
  | nil => rfl
  | cons o os ih =>
    simp only [List.map_cons, List.flatten_cons, List.map_append, ih, List.map_map]
    rfl

/-- a handled fault leaves the first `k` frames of the segment readable, and the ideal segment keeps
its first `k` entries, followed by nothing or by a damaged entry -/
theorem faulted_segment (z : Bool) (cur : List Frame) (φ : Fault) (h : faultHandled z φ = true) :
    ∃ k X, readAll z (faultCells (cellsOf cur) φ) = cur.take k ∧
      specFaultSeg (cur.map (fun f => some f.core)) false φ
        = (cur.take k).map (fun f => some f.core) ++ X ∧
      X.takeWhile Option.isSome = [] := by
  cases φ with
  | trunc s n =>
    by_cases hn : 4 * cur.length ≤ n
    · have hall : cur.take (n / 4) = cur := List.take_of_length_le (by omega)
      refine ⟨n / 4, [], readAll_take z cur n, ?_, rfl⟩
      simp only [specFaultSeg, FS, List.length_map, if_pos hn, hall, List.append_nil]
    · exact ⟨n / 4, if (n % 4 != 0) = true then [none] else [], readAll_take z cur n,
        by simp only [specFaultSeg, FS, List.length_map, if_neg hn, Bool.or_false, List.map_take],
        by split <;> rfl⟩
  | junk s c =>
    obtain ⟨X, hX, hX'⟩ := mapNth_none (cur.map (fun f => some f.core)) (c / 4)
    exact ⟨c / 4, X, readAll_junk z cur c, by rw [List.map_take]; exact hX, hX'⟩
  | zero s a b => simp [faultHandled] at h

end TurVerif.C03
