import TurVerif.Model.Freelist
/-! Facts about the model's own functions first (the page store read as a function, slots, entries).
    Then, in the namespace of the proofs, the notions the invariant is stated in: `putHead`, the one
    state update every writing step is an instance of; `release`, `allocateFixed` and `allocAux` branch
    by branch; the chain of trunk pages hanging off a head and the page numbers it holds, which depend
    on the pages of the chain only. -/
namespace TurVerif.Freelist

theorem lookup_filter_ne (l : List (Nat × Page)) {p q : Nat} (h : q ≠ p) :
    lookup (l.filter (fun e => e.1 != p)) q = lookup l q := by
  induction l with
  | nil => rfl
  | cons e r ih =>
    obtain ⟨a, v⟩ := e
    by_cases hap : a = p
    · rw [List.filter_cons_of_neg (by simpa using hap), ih]
      exact (if_neg (fun e : a = q => h (e.symm.trans hap))).symm
    · rw [List.filter_cons_of_pos (by simpa using hap)]
      show (if a = q then v else _) = if a = q then v else _
      rw [ih]

@[simp] theorem page_setPage (s : St) (p : Nat) (v : Page) (q : Nat) :
    (s.setPage p v).page q = if q = p then v else s.page q := by
  show (if p = q then v else lookup (s.pages.filter _) q) = _
  by_cases h : q = p
  · rw [if_pos h.symm, if_pos h]
  · rw [if_neg (Ne.symm h), if_neg h, lookup_filter_ne _ h]; rfl

@[simp] theorem npages_setPage (s : St) (p : Nat) (v : Page) : (s.setPage p v).npages = s.npages := rfl
@[simp] theorem head_setPage (s : St) (p : Nat) (v : Page) : (s.setPage p v).head = s.head := rfl
@[simp] theorem fc_setPage (s : St) (p : Nat) (v : Page) : (s.setPage p v).freeCount = s.freeCount := rfl
@[simp] theorem page_init (n q : Nat) : (St.init n).page q = Page.zero := rfl

theorem slot_setSlot (l : List Nat) (i j v : Nat) :
    (setSlot l i v).getD j 0 = if j = i then v else l.getD j 0 := by
  fun_induction setSlot l i v generalizing j <;> cases j
  -- both indices positive: strip the first element on both sides; otherwise both sides compute
  case case2.succ | case4.succ =>
    simp only [List.getD_cons_succ, List.getD_nil, Nat.succ_eq_add_one, Nat.add_right_cancel_iff, *]
  all_goals rfl

theorem ents_congr (a b : Page) (k : Nat) (h : ∀ i, i < k → a.slot i = b.slot i) :
    ents a k = ents b k := by
  induction k with
  | zero => rfl
  | succ k ih =>
    simp only [ents]
    rw [h k (Nat.lt_succ_self k), ih (fun i hi => h i (Nat.lt_succ_of_lt hi))]

theorem length_ents (a : Page) (k : Nat) : (ents a k).length = k := by
  induction k with
  | zero => rfl
  | succ k ih => simp [ents, ih]

end TurVerif.Freelist

namespace TurVerif.C34
open TurVerif.Freelist

/-- trunk page after `release` wrote slot `count` -/
def pushed (pg : Page) (p : Nat) : Page :=
  { pg with slots := setSlot pg.slots pg.count p, count := pg.count + 1 }

/-- trunk page after `allocate` lowered `count`; the slot keeps its contents -/
def popped (pg : Page) : Page := { pg with count := pg.count - 1 }

theorem ents_push (pg : Page) (p : Nat) :
    ents (pushed pg p) (pushed pg p).count = p :: ents pg pg.count := by
  show (setSlot pg.slots pg.count p).getD pg.count 0 :: _ = _
  rw [slot_setSlot, if_pos rfl]
  refine congrArg _ (ents_congr _ _ _ fun i hi => ?_)
  show (setSlot pg.slots pg.count p).getD i 0 = _
  rw [slot_setSlot, if_neg (Nat.ne_of_lt hi)]; rfl

theorem ents_pop (pg : Page) (h : 0 < pg.count) :
    ents pg pg.count = pg.slot (pg.count - 1) :: ents (popped pg) (popped pg).count := by
  obtain ⟨k, hk⟩ := Nat.exists_eq_succ_of_ne_zero (Nat.ne_of_gt h)
  show _ = _ :: ents (popped pg) (pg.count - 1)
  rw [hk]
  exact congrArg (pg.slot k :: ·) (ents_congr pg _ k fun _ _ => rfl)

/-- page `t` is overwritten by `v` and becomes the head; the counter becomes `f`.  Every step of the
    freelist that writes a page has this form. -/
def putHead (s : St) (t f : Nat) (v : Page) : St :=
  { (s.setPage t v) with head := t, freeCount := f }

theorem page_putHead_self {s : St} {t f : Nat} {v : Page} : (putHead s t f v).page t = v :=
  (page_setPage s t v t).trans (if_pos rfl)

theorem page_putHead_ne {s : St} {t q f : Nat} {v : Page} (h : q ≠ t) :
    (putHead s t f v).page q = s.page q :=
  (page_setPage s t v q).trans (if_neg h)

/-- `release` into a head trunk with room: the state after it -/
def push (s : St) (p : Nat) : St :=
  putHead s s.head (s.freeCount + 1) (pushed (s.page s.head) p)

/-- the step both variants of `allocate` take on a non-empty head trunk: the state after it … -/
def pop (s : St) : St :=
  putHead s s.head (s.freeCount - 1) (popped (s.page s.head))

/-- … and the page it hands out -/
def top (s : St) : Nat := (s.page s.head).slot ((s.page s.head).count - 1)

section
variable {s : St} {p fuel : Nat}

/-- no head trunk (`initialize_trunk`) or a full one (`create_new_trunk`): the released page becomes
    the head trunk and points at the old head -/
theorem release_open (hn : s.head ≠ 0 → s.head < s.npages)
    (hfull : s.head ≠ 0 → TRUNK_MAX ≤ (s.page s.head).count) (hp : p < s.npages) :
    release s p = (putHead s p (if s.head = 0 then 1 else s.freeCount + 1)
      (trunkInit (s.page p) s.head), true) := by
  by_cases hh : s.head = 0
  · rw [release, if_pos hh, if_neg (Nat.not_le.mpr hp), if_pos hh, hh]
    rfl
  · rw [release, if_neg hh, if_neg (Nat.not_le.mpr (hn hh))]
    dsimp only
    rw [if_pos (hfull hh), if_neg (Nat.not_le.mpr hp), if_neg hh]
    rfl

theorem release_push (hh : s.head ≠ 0) (hn : s.head < s.npages)
    (hlt : (s.page s.head).count < TRUNK_MAX) : release s p = (push s p, true) := by
  rw [release, if_neg hh, if_neg (Nat.not_le.mpr hn)]
  dsimp only
  rw [if_neg (Nat.not_le.mpr hlt)]
  rfl

/-- the bound check `ensure!(entry_offset + 4 <= PAGE_SIZE)` of a pop passes on a trunk within bounds -/
theorem not_full_pred {c : Nat} (hc : 0 < c) (hm : c ≤ TRUNK_MAX) : ¬ TRUNK_MAX ≤ c - 1 :=
  Nat.not_le.mpr (Nat.lt_of_lt_of_le (Nat.sub_lt hc Nat.one_pos) hm)

theorem allocateFixed_none (h : s.freeCount = 0 ∨ s.head = 0) :
    allocateFixed s = (s, .none) := by
  rw [allocateFixed, if_pos h]

theorem allocateFixed_trunk (hf : s.freeCount ≠ 0) (hh : s.head ≠ 0)
    (hn : s.head < s.npages) (hc : (s.page s.head).count = 0) :
    allocateFixed s =
      ({ s with head := (s.page s.head).next, freeCount := s.freeCount - 1 }, .page s.head) := by
  rw [allocateFixed, if_neg (not_or.mpr ⟨hf, hh⟩), if_neg (Nat.not_le.mpr hn)]
  dsimp only
  rw [if_pos hc]

theorem allocateFixed_pop (hf : s.freeCount ≠ 0) (hh : s.head ≠ 0)
    (hn : s.head < s.npages) (hc : 0 < (s.page s.head).count)
    (hm : (s.page s.head).count ≤ TRUNK_MAX) :
    allocateFixed s = (pop s, .page (top s)) := by
  rw [allocateFixed, if_neg (not_or.mpr ⟨hf, hh⟩), if_neg (Nat.not_le.mpr hn)]
  dsimp only
  rw [if_neg (Nat.ne_of_gt hc), if_neg (not_full_pred hc hm)]
  rfl

theorem allocAux_none (hf : s.freeCount = 0) :
    allocAux (fuel + 1) s = (s, .none) := by
  rw [allocAux, if_pos hf]

theorem allocAux_reset (hf : s.freeCount ≠ 0) (hn : s.head < s.npages)
    (hc : (s.page s.head).count = 0) (hx : (s.page s.head).next = 0) :
    allocAux (fuel + 1) s = ({ s with head := 0, freeCount := 0 }, .none) := by
  rw [allocAux, if_neg hf, if_neg (Nat.not_le.mpr hn)]
  dsimp only
  rw [if_pos hc, if_pos hx]

theorem allocAux_skip (hf : s.freeCount ≠ 0) (hn : s.head < s.npages)
    (hc : (s.page s.head).count = 0) (hx : (s.page s.head).next ≠ 0) :
    allocAux (fuel + 1) s = allocAux fuel { s with head := (s.page s.head).next } := by
  rw [allocAux, if_neg hf, if_neg (Nat.not_le.mpr hn)]
  dsimp only
  rw [if_pos hc, if_neg hx]

/-- on a non-empty head trunk the pinned code takes the same step as the repaired one and then
    moves the head on if the trunk has become empty -/
theorem allocAux_pop (hf : s.freeCount ≠ 0) (hn : s.head < s.npages)
    (hc : 0 < (s.page s.head).count) (hm : (s.page s.head).count ≤ TRUNK_MAX) :
    allocAux (fuel + 1) s =
      (if (s.page s.head).count - 1 = 0 then { pop s with head := (s.page s.head).next } else pop s,
        .page (top s)) := by
  rw [allocAux, if_neg hf, if_neg (Nat.not_le.mpr hn)]
  dsimp only
  rw [if_neg (Nat.ne_of_gt hc), if_neg (not_full_pred hc hm)]
  rfl

end

/-- `ts` is the chain of trunk pages reachable from `h` -/
def Chain (s : St) : Nat → List Nat → Prop
  | h, [] => h = 0
  | h, t :: ts => h = t ∧ t ≠ 0 ∧ t < s.npages ∧ Chain s (s.page t).next ts

/-- all page numbers held by the chain: per trunk its entries (top first), then the trunk page -/
def items (s : St) : List Nat → List Nat
  | [] => []
  | t :: ts => ents (s.page t) (s.page t).count ++ t :: items s ts

/-- number of entries in the trunks of the chain (`items` without the trunk pages themselves) -/
def entryCount (s : St) : List Nat → Nat
  | [] => 0
  | t :: ts => (s.page t).count + entryCount s ts

section
variable {s s' : St} {ts : List Nat} {t : Nat}

theorem Chain_congr (hn : s'.npages = s.npages)
    (hp : ∀ t ∈ ts, s'.page t = s.page t) {h : Nat} : Chain s h ts → Chain s' h ts := by
  induction ts generalizing h with
  | nil => exact id
  | cons t ts ih =>
    intro hc
    obtain ⟨h1, h2, h3, h4⟩ := hc
    refine ⟨h1, h2, hn ▸ h3, ?_⟩
    rw [hp t (.head _)]
    exact ih (fun u hu => hp u (.tail _ hu)) h4

theorem items_congr (hp : ∀ t ∈ ts, s'.page t = s.page t) :
    items s' ts = items s ts := by
  induction ts with
  | nil => rfl
  | cons t ts ih =>
    simp only [items]
    rw [hp t (.head _), ih (fun u hu => hp u (.tail _ hu))]

theorem entryCount_congr (hp : ∀ t ∈ ts, s'.page t = s.page t) :
    entryCount s' ts = entryCount s ts := by
  induction ts with
  | nil => rfl
  | cons t ts ih =>
    simp only [entryCount]
    rw [hp t (.head _), ih (fun u hu => hp u (.tail _ hu))]

theorem mem_items_of_mem (h : t ∈ ts) : t ∈ items s ts := by
  induction ts with
  | nil => cases h
  | cons u us ih =>
    simp only [items, List.mem_append, List.mem_cons]
    rcases List.mem_cons.mp h with rfl | h'
    · exact Or.inr (Or.inl rfl)
    · exact Or.inr (Or.inr (ih h'))

theorem length_items (s : St) (ts : List Nat) :
    (items s ts).length = entryCount s ts + ts.length := by
  induction ts with
  | nil => rfl
  | cons t ts ih =>
    simp only [items, entryCount, List.length_append, List.length_cons, length_ents, ih,
      Nat.add_assoc]

theorem items_cons_empty (ts : List Nat) (h : (s.page t).count = 0) :
    items s (t :: ts) = t :: items s ts := by
  rw [items, h]; rfl

theorem Chain_head_zero (h : Chain s 0 ts) : ts = [] := by
  cases ts with
  | nil => rfl
  | cons t ts => exact absurd h.1.symm h.2.1

theorem Chain_head_ne {h : Nat} (hc : Chain s h ts) (hne : h ≠ 0) :
    ∃ ts', ts = h :: ts' := by
  cases ts with
  | nil => exact absurd hc hne
  | cons t ts => exact ⟨ts, by rw [hc.1]⟩

end

end TurVerif.C34
