/-!
Two steps that the proofs about the branching, fuel-bounded models repeat: a predicate holds of an `if` when it
holds of both branches, and fuel that exceeds what a growing counter has still to go is enough for one more round.
-/
namespace TurVerif

theorem ite_cases {β : Type} {Q : β → Prop} {c : Prop} [Decidable c] {a b : β} (ha : c → Q a) (hb : ¬ c → Q b) :
    Q (if c then a else b) := by
  split
  · exact ha ‹_›
  · exact hb ‹_›

/-- The fuel arguments (frames of `next_token`, the token loop, the LIKE loop, the catalog loop) have one shape: a
counter `μ ≤ N` grows in every round, and the fuel exceeds what it still has to go. -/
theorem fuel_step {N f μ μ' : Nat} (h : N < f + 1 + μ) (hμ : μ < μ') : N < f + μ' := by omega

end TurVerif
