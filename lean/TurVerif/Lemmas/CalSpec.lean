import TurVerif.Model.Cal
/-! The calendar spec in closed form.  Counting the year from 1 March puts the leap day last, so the
day number of a date is `daysUpToYear Y` plus a month offset `(153 * k + 2) / 5` that does not depend
on the year (`k` = months since March). -/
namespace TurVerif.Cal

theorem isLeap_iff (y : Nat) : isLeap y = true ↔ (y % 4 = 0 ∧ y % 100 ≠ 0) ∨ y % 400 = 0 := by
  simp [isLeap]

theorem yearLen_eq (y : Nat) :
    yearLen y = if (y % 4 = 0 ∧ y % 100 ≠ 0) ∨ y % 400 = 0 then 366 else 365 := by
  simp only [yearLen, isLeap_iff]

theorem validDate_iff (y m d : Nat) :
    validDate y m d = true ↔ 1 ≤ y ∧ 1 ≤ m ∧ m ≤ 12 ∧ 1 ≤ d ∧ d ≤ monthLen y m := by
  simp [validDate, and_assoc]

theorem yearLen_ge (y : Nat) : 365 ≤ yearLen y := by unfold yearLen; split <;> omega
theorem yearLen_le (y : Nat) : yearLen y ≤ 366 := by unfold yearLen; split <;> omega

/-- the leap rule as a sum of indicators, in the shape `Nat.succ_div` gives the step of `n / 4 - n / 100 + n / 400` -/
theorem yearLen_add (y : Nat) :
    yearLen y + (if 100 ∣ y then 1 else 0) = 365 + (if 4 ∣ y then 1 else 0) + (if 400 ∣ y then 1 else 0) := by
  simp only [yearLen_eq, Nat.dvd_iff_mod_eq_zero]
  by_cases h400 : y % 400 = 0
  · simp [h400, show y % 100 = 0 by omega, show y % 4 = 0 by omega]
  · by_cases h100 : y % 100 = 0
    · simp [h400, h100, show y % 4 = 0 by omega]
    · by_cases h4 : y % 4 = 0 <;> simp [h400, h100, h4]

theorem daysUpToYear_closed (n : Nat) :
    daysUpToYear n + n / 100 = 365 * n + n / 4 + n / 400 := by
  induction n with
  | zero => rfl
  | succ k ih =>
    have := yearLen_add (k + 1)
    rw [daysUpToYear, Nat.succ_div, Nat.succ_div, Nat.succ_div]
    omega

theorem daysUpToYear_step (n : Nat) : daysUpToYear (n + 1) = daysUpToYear n + yearLen (n + 1) := rfl

theorem daysUpToYear_succ (y : Nat) (h : 1 ≤ y) : daysUpToYear y = daysUpToYear (y - 1) + yearLen y := by
  obtain ⟨n, rfl⟩ := Nat.exists_eq_add_one.2 h
  rfl

theorem daysUpToYear_mono {a b : Nat} (h : a ≤ b) : daysUpToYear a + 365 * (b - a) ≤ daysUpToYear b := by
  induction h with
  | refl => simp
  | @step k _ ih =>
    have := yearLen_ge (k + 1)
    rw [daysUpToYear_step]; omega

theorem daysUpToYear_1969 : daysUpToYear 1969 = 719162 := by
  have := daysUpToYear_closed 1969
  omega

/-- by century `Y / 100` and year of the century `Y % 100` -/
theorem daysUpToYear_split (Y : Nat) :
    daysUpToYear Y = 36524 * (Y / 100) + Y / 100 / 4 + 365 * (Y % 100) + Y % 100 / 4 := by
  have := daysUpToYear_closed Y
  omega

theorem monthLen_le (y m : Nat) : monthLen y m ≤ 31 := by
  unfold monthLen; repeat' split
  all_goals omega

theorem validDate_bounds {y m d : Nat} (hv : validDate y m d = true) :
    1 ≤ y ∧ 1 ≤ m ∧ m ≤ 12 ∧ 1 ≤ d ∧ d ≤ 31 :=
  let ⟨hy, hm1, hm2, hd1, hd2⟩ := (validDate_iff y m d).1 hv
  ⟨hy, hm1, hm2, hd1, Nat.le_trans hd2 (monthLen_le y m)⟩

theorem daysUpToMonth_mono (y : Nat) {a b : Nat} (h : a ≤ b) : daysUpToMonth y a ≤ daysUpToMonth y b := by
  induction h with
  | refl => exact Nat.le_refl _
  | step _ ih => exact Nat.le_trans ih (Nat.le_add_right _ _)

theorem daysUpToMonth_succ (y m : Nat) (h : 1 ≤ m) :
    daysUpToMonth y m = daysUpToMonth y (m - 1) + monthLen y m := by
  obtain ⟨k, rfl⟩ := Nat.exists_eq_add_one.2 h
  rfl

/-- March … December have the lengths the offsets `(153 * k + 2) / 5` step by; a fact about ten months,
none of them February, so the year plays no part -/
theorem monthLen_march (y k : Nat) (hk : k ≤ 9) :
    (153 * k + 2) / 5 + monthLen y (k + 3) = (153 * (k + 1) + 2) / 5 := by
  rw [show monthLen y (k + 3) = monthLen 0 (k + 3) by simp [monthLen]]
  revert k
  decide

/-- 306 = days from 1 March to 31 December -/
theorem daysUpToMonth_march (y k : Nat) (hk : k ≤ 10) :
    daysUpToMonth y (k + 2) + 306 = yearLen y + (153 * k + 2) / 5 := by
  induction k with
  | zero =>
    show 0 + monthLen y 1 + monthLen y 2 + 306 = _
    cases h : isLeap y <;> simp [monthLen, yearLen, h]
  | succ k ih =>
    have := monthLen_march y k (by omega)
    have := ih (by omega)
    show daysUpToMonth y (k + 2) + monthLen y (k + 3) + 306 = _
    omega

theorem daysUpToMonth_twelve (y : Nat) : daysUpToMonth y 12 = yearLen y := by
  have : daysUpToMonth y 12 + 306 = yearLen y + (153 * 10 + 2) / 5 := daysUpToMonth_march y 10 (by omega)
  omega

theorem valid_le_yearLen (y m d : Nat) (hv : validDate y m d = true) :
    daysUpToMonth y (m - 1) + d ≤ yearLen y := by
  obtain ⟨hy, hm1, hm2, hd1, hd2⟩ := (validDate_iff y m d).1 hv
  have h1 := daysUpToMonth_succ y m hm1
  have h2 := daysUpToMonth_mono y hm2
  rw [daysUpToMonth_twelve] at h2
  omega

theorem daysFromCivil_janFeb (y m d : Nat) (hm1 : 1 ≤ m) (hm2 : m ≤ 2) :
    daysFromCivil y m d + 306 = daysUpToYear (y - 1) + (153 * (m + 9) + 2) / 5 + d := by
  unfold daysFromCivil
  rcases (show m = 1 ∨ m = 2 by omega) with rfl | rfl <;> simp [daysUpToMonth, monthLen] <;> omega

theorem daysFromCivil_march (y m d : Nat) (hy : 1 ≤ y) (hm1 : 3 ≤ m) (hm2 : m ≤ 12) :
    daysFromCivil y m d + 306 = daysUpToYear y + (153 * (m - 3) + 2) / 5 + d := by
  obtain ⟨k, rfl⟩ := Nat.exists_eq_add_of_le' hm1
  have := daysUpToMonth_march y k (by omega)
  rw [daysUpToYear_succ y hy]
  show daysUpToYear (y - 1) + daysUpToMonth y (k + 2) + d + 306 = _
  omega

/-- the month offsets invert: day `E` of the year from 1 March lies in month `(5 * E + 2) / 153` -/
theorem month_of_day (k d : Nat) (hd : 1 ≤ d) (h : (153 * k + 2) / 5 + d ≤ (153 * (k + 1) + 2) / 5) :
    (5 * ((153 * k + 2) / 5 + d - 1) + 2) / 153 = k := by
  omega

/-- The date `y-m-d` counted from 1 March: century `C`, year of the century `t`, month `k` (0 = March …
11 = February, which belongs to the next civil year), day `E` of that year (from 0; the leap day is the
last, 365) -/
structure MarchDate (y m d C t k E : Nat) : Prop where
  t_lt : t < 100
  civil : (k ≤ 9 ∧ y = 100 * C + t ∧ m = k + 3) ∨ (10 ≤ k ∧ k ≤ 11 ∧ y = 100 * C + t + 1 ∧ m + 9 = k)
  rd : daysFromCivil y m d + 306 = 36524 * C + C / 4 + 365 * t + t / 4 + (E + 1)
  one_le : 1 ≤ d
  day : E + 1 = (153 * k + 2) / 5 + d
  month : (5 * E + 2) / 153 = k
  year : E ≤ 364 ∨ (E = 365 ∧ t % 4 = 3 ∧ (t = 99 → C % 4 = 3))

/-- the leap day is the only day 365 of a year counted from March -/
theorem MarchDate.not_leapDay {y m d C t k E : Nat} (h : MarchDate y m d C t k E) (hnot : ¬ (m = 2 ∧ d = 29)) :
    E ≤ 364 := by
  have := h.year; have := h.month; have := h.day; have := h.civil
  omega

/-- from the year `Y` and month `k` counted from March -/
theorem marchDate_of {y m d : Nat} (Y k : Nat)
    (hciv : (k ≤ 9 ∧ y = Y ∧ m = k + 3) ∨ (10 ≤ k ∧ k ≤ 11 ∧ y = Y + 1 ∧ m + 9 = k))
    (hrd : daysFromCivil y m d + 306 = daysUpToYear Y + (153 * k + 2) / 5 + d) (hd : 1 ≤ d)
    (hmon : (153 * k + 2) / 5 + d ≤ (153 * (k + 1) + 2) / 5)
    (hyr : (153 * k + 2) / 5 + d ≤ yearLen (Y + 1)) :
    MarchDate y m d (Y / 100) (Y % 100) k ((153 * k + 2) / 5 + d - 1) := by
  rw [daysUpToYear_split] at hrd
  rw [yearLen_eq] at hyr
  have hY := Nat.div_add_mod Y 100
  refine ⟨Nat.mod_lt _ (by decide), by omega, by omega,
    hd, Nat.sub_add_cancel (Nat.le_trans hd (Nat.le_add_left _ _)), month_of_day k d hd hmon, ?_⟩
  split at hyr <;> omega

theorem marchDate (y m d : Nat) (hv : validDate y m d = true) : ∃ C t k E, MarchDate y m d C t k E := by
  obtain ⟨hy, hm1, hm2, hd1, hd2⟩ := (validDate_iff y m d).1 hv
  by_cases hm : m ≤ 2
  · have hlen : (153 * (m + 9) + 2) / 5 + monthLen y m ≤ (153 * (m + 9 + 1) + 2) / 5 ∧
        (153 * (m + 9) + 2) / 5 + monthLen y m ≤ yearLen y := by
      rcases (show m = 1 ∨ m = 2 by omega) with rfl | rfl <;> cases h : isLeap y <;>
        simp [monthLen, yearLen, h]
    obtain ⟨n, rfl⟩ := Nat.exists_eq_add_one.2 hy
    exact ⟨_, _, _, _, marchDate_of n (m + 9) (.inr ⟨by omega, by omega, rfl, rfl⟩)
      (daysFromCivil_janFeb _ m d hm1 hm) hd1 (Nat.le_trans (Nat.add_le_add_left hd2 _) hlen.1)
      (Nat.le_trans (Nat.add_le_add_left hd2 _) hlen.2)⟩
  · obtain ⟨k, rfl⟩ := Nat.exists_eq_add_of_le' (show 3 ≤ m by omega)
    have hmon := monthLen_march y k (by omega)
    have := yearLen_ge (y + 1)
    exact ⟨_, _, _, _, marchDate_of y k (.inl ⟨by omega, rfl, rfl⟩)
      (daysFromCivil_march y _ d hy (by omega) hm2) hd1 (hmon ▸ Nat.add_le_add_left hd2 _) (by omega)⟩

end TurVerif.Cal
