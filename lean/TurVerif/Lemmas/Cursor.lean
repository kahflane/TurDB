/-!
A cursor into a byte buffer: `At data off l` says that `data`, from offset `off` on, reads `l`.
Decoders are followed by moving the cursor past what they read; the buffer itself stays a variable,
so that `simp` cannot disturb the way it is cut up.
-/
namespace TurVerif

def At (data : List Nat) (off : Nat) (l : List Nat) : Prop := ∃ p, data = p ++ l ∧ p.length = off

theorem at_append (p l : List Nat) : At (p ++ l) p.length l := ⟨p, rfl, rfl⟩

namespace At
variable {data l bs r : List Nat} {off n : Nat}

theorem length_eq (h : At data off l) : data.length = off + l.length := by
  obtain ⟨p, rfl, rfl⟩ := h; simp

/-- A truncation guard `if data.length < off + n then .err …` in front of a read is false at a cursor
that sees `n` more bytes (stated in the shape the decoders' guards have). -/
theorem not_lt (h : At data off (bs ++ r)) (hn : bs.length = n) : ¬ data.length < off + n := by
  rw [h.length_eq, List.length_append, hn]; omega

theorem adv (h : At data off (bs ++ r)) (hn : bs.length = n) : At data (off + n) r := by
  obtain ⟨p, rfl, rfl⟩ := h
  exact ⟨p ++ bs, by simp, by simp [hn]⟩

theorem tail {d : Nat} (h : At data off (d :: l)) : At data (off + 1) l := h.adv (bs := [d]) rfl

/-- the checked slice `data[off .. off+n]` at a cursor -/
theorem take_drop (h : At data off (bs ++ r)) (hn : bs.length = n) :
    off + n ≤ data.length ∧ (data.drop off).take n = bs := by
  obtain ⟨p, rfl, rfl⟩ := h
  subst hn
  simp

end At
end TurVerif
