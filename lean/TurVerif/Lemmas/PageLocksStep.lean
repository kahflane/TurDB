import TurVerif.Model.PageLocks
/-!
The moves of the page-lock LTS as a relation: `step` is one large `match` on the thread's pc, its
program and the shared state; `step_cases` takes it apart once, and the proofs about single steps
go by cases on `StepTo`.
-/
namespace TurVerif.PageLocks

/-- `StepTo s tid t s'`: thread `tid`, which is `t` in `s`, can move to `s'`.  The constructors
cover the branches of `step` that return `some` (`start`, `grant` and `release` stand for several
each) with the conditions under which they are taken, except that `park` carries none and `grant`
not the fairness condition of a fresh read attempt: no proof needs them.  So `StepTo` is implied by
`step` (`step_cases`) and does not imply it. -/
inductive StepTo (s : State) (tid : Nat) (t : Thread) : State → Prop
  | start (p : Nat) (w : Bool) (rest : List Op) (hpc : t.pc = .idle)
      (hprog : t.prog = (if w then .write p else .read p) :: rest) :
      StepTo s tid t (setThread s tid { prog := rest, pc := .getOrCreate p w })
  | hit (p e : Nat) (w : Bool) (hpc : t.pc = .getOrCreate p w) (hl : lookup s.map p = some e) :
      StepTo s tid t (setThread (modEntry s e (fun x => { x with refCount := x.refCount + 1 })) tid
        { t with pc := .acquire p e w })
  | miss (p : Nat) (w : Bool) (hpc : t.pc = .getOrCreate p w) (hl : lookup s.map p = none) :
      StepTo s tid t (setThread { s with
          entries := s.entries ++ [{ refCount := 1, readers := 0, writer := false }],
          map := (p, s.entries.length) :: s.map } tid { t with pc := .acquire p s.entries.length w })
  | grant (p e : Nat) (w : Bool) (en : Entry)
      (hpc : t.pc = .acquire p e w ∨ t.pc = .waiting p e w) (he : s.entries[e]? = some en)
      (hw : en.writer = false) (hr : w = true → en.readers = 0) :
      StepTo s tid t (setThread (modEntry s e (fun x => if w then { x with writer := true }
        else { x with readers := x.readers + 1 })) tid { t with pc := .held p e w })
  | park (p e : Nat) (w : Bool) (hpc : t.pc = .acquire p e w) :
      StepTo s tid t (setThread s tid { t with pc := .waiting p e w })
  | unlock (p e : Nat) (w : Bool) (hpc : t.pc = .held p e w) :
      StepTo s tid t (setThread (modEntry s e (fun x => if w then { x with writer := false }
        else { x with readers := x.readers - 1 })) tid { t with pc := .release p e })
  | release (p e : Nat) (en : Entry) (hpc : t.pc = .release p e) (he : s.entries[e]? = some en) :
      StepTo s tid t (setThread (modEntry s e (fun x => { x with refCount := x.refCount - 1 })) tid
        { t with pc := if en.refCount = 1 then .cleanup p e else .idle })
  | remove (p e : Nat) (en : Entry) (hpc : t.pc = .cleanup p e) (he : s.entries[e]? = some en)
      (hc : en.refCount = 0 ∧ (if s.fixed then lookup s.map p = some e else True)) :
      StepTo s tid t (setThread { s with map := s.map.filter (fun x => x.1 != p) } tid
        { t with pc := .idle })
  | keep (p e : Nat) (en : Entry) (hpc : t.pc = .cleanup p e) (he : s.entries[e]? = some en)
      (hc : ¬ (en.refCount = 0 ∧ (if s.fixed then lookup s.map p = some e else True))) :
      StepTo s tid t (setThread s tid { t with pc := .idle })

/-- by the case principle of `step`: its branches in the order of the definition; the eight listed
first return `none` -/
theorem step_cases {s s' : State} {tid : Nat} (hs : step s tid = some s') :
    ∃ t, s.threads[tid]? = some t ∧ StepTo s tid t s' := by
  have mk : ∀ {t x}, s.threads[tid]? = some t → StepTo s tid t x → some x = some s' →
      ∃ t, s.threads[tid]? = some t ∧ StepTo s tid t s' :=
    fun ht hk hs => Option.some.inj hs ▸ ⟨_, ht, hk⟩
  revert hs
  fun_cases step s tid
  case case1 | case2 | case7 | case12 | case14 | case16 | case18 | case21 => nofun
  case case3 t ht hpc p rest hprog => exact mk ht (.start p false rest hpc hprog)
  case case4 t ht hpc p rest hprog => exact mk ht (.start p true rest hpc hprog)
  case case5 t ht p w hpc e hl => exact mk ht (.hit p e w hpc hl)
  case case6 t ht p w hpc hl e => exact mk ht (.miss p w hpc hl)
  case case8 t ht p e en he hc hpc =>
    exact mk ht (.grant p e true en (.inl hpc) he hc.2 fun _ => hc.1)
  case case9 t ht p e en he hc hpc => exact mk ht (.park p e true hpc)
  case case10 t ht p e w hpc en he ww hw hc =>
    obtain rfl := Bool.eq_false_iff.mpr hw
    exact mk ht (.grant p e false en (.inl hpc) he hc.1 nofun)
  case case11 t ht p e w hpc en he ww hw hc =>
    obtain rfl := Bool.eq_false_iff.mpr hw
    exact mk ht (.park p e false hpc)
  case case13 t ht p e en he hc hpc =>
    exact mk ht (.grant p e true en (.inr hpc) he hc.2 fun _ => hc.1)
  case case15 t ht p e w hpc en he hw hc =>
    obtain rfl := Bool.eq_false_iff.mpr hw
    exact mk ht (.grant p e false en (.inr hpc) he hc nofun)
  case case17 t ht p e w hpc => exact mk ht (.unlock p e w hpc)
  case case19 t ht p e hpc en he s1 h1 =>
    have := StepTo.release (tid := tid) p e en hpc he
    rw [if_pos h1] at this; exact mk ht this
  case case20 t ht p e hpc en he s1 h1 =>
    have := StepTo.release (tid := tid) p e en hpc he
    rw [if_neg h1] at this; exact mk ht this
  case case22 t ht p e hpc en he rem hc => exact mk ht (.remove p e en hpc he hc)
  case case23 t ht p e hpc en he rem hc => exact mk ht (.keep p e en hpc he hc)

end TurVerif.PageLocks
