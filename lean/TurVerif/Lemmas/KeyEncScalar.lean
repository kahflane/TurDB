import TurVerif.Lemmas.KeyEncRank
/-! C26: the order statement `Ok`, values of different kinds, integers. -/
namespace TurVerif.KeyEnc

/-- the combined order / prefix-freeness statement for one pair of values -/
def Ok (a b : KVal) : Prop :=
  ∀ r1 r2, lexCmp (enc a ++ r1) (enc b ++ r2) = (cmpVal a b).then (lexCmp r1 r2)

/-- Values whose ranks differ are ordered by the rank byte alone; values that share a rank and a key
(`Int 0`, `Float ±0`) tie.  This is the whole argument for two values of different kinds. -/
theorem head_decides (a b : KVal) (he : rank a = rank b → enc a = enc b) (r1 r2 : List Nat) :
    lexCmp (enc a ++ r1) (enc b ++ r2) = (cmpNat (rank a) (rank b)).then (lexCmp r1 r2) := by
  by_cases h : rank a = rank b
  · rw [he h, h, cmpNat_self, then_eq', lexCmp_append_left]
  · obtain ⟨t1, e1⟩ := enc_rank a
    obtain ⟨t2, e2⟩ := enc_rank b
    have : cmpNat (rank a) (rank b) ≠ .eq := fun e => h (cmpNat_eq_iff.mp e)
    rw [e1, e2, List.cons_append, List.cons_append, lexCmp_cons_cons]
    cases hc : cmpNat (rank a) (rank b) <;> simp_all

/-- `b` is not of the kind that `a`'s rank stands for -/
theorem other_kind (a b : KVal) (hne : ¬ KindAt (rank a) b) (r1 r2 : List Nat) :
    lexCmp (enc a ++ r1) (enc b ++ r2) = (cmpNat (rank a) (rank b)).then (lexCmp r1 r2) :=
  head_decides a b (fun h => absurd (h ▸ rank_inv b) hne) r1 r2

theorem int_int (x y : Int) (ha : wf (.int x) = true) (hb : wf (.int y) = true) (r1 r2 : List Nat) :
    lexCmp (enc (.int x) ++ r1) (enc (.int y) ++ r2) = (cmpInt x y).then (lexCmp r1 r2) := by
  simp only [wf, decide_eq_true_eq] at ha hb
  -- within one sign class `n as u64` is monotone; across classes the prefix byte decides
  have same : ∀ p, (x < 0 ∧ y < 0) ∨ (0 < x ∧ 0 < y) →
      lexCmp (p :: be 8 (toU 18446744073709551616 x) ++ r1)
        (p :: be 8 (toU 18446744073709551616 y) ++ r2) = (cmpInt x y).then (lexCmp r1 r2) := fun p h => by
    have ux := toU_of_range (m := 18446744073709551616) (x := x) (by omega)
    have uy := toU_of_range (m := 18446744073709551616) (x := y) (by omega)
    rw [List.cons_append, List.cons_append, lexCmp_cons_self,
      be_cmp 8 (toU_lt (m := 18446744073709551616) (by decide) x)
        (toU_lt (m := 18446744073709551616) (by decide) y),
      cmpNat_of_cmpInt (x := x) (y := y) (by omega) (by omega) (by omega)]
  rcases int_class x with ⟨_, ex, hx⟩ | ⟨_, ex, hx⟩ | ⟨_, ex, hx⟩ <;>
    rcases int_class y with ⟨_, ey, hy⟩ | ⟨_, ey, hy⟩ | ⟨_, ey, hy⟩ <;> rw [ex, ey]
  · exact same _ (.inl ⟨hx, hy⟩)
  · rw [cmpInt_lt (by omega)]; simp [cmpNat]
  · rw [cmpInt_lt (by omega)]; simp [cmpNat]
  · rw [cmpInt_gt (by omega)]; simp [cmpNat]
  · rw [hx, hy, cmpInt_self]; rfl
  · rw [cmpInt_lt (by omega)]; simp [cmpNat]
  · rw [cmpInt_gt (by omega)]; simp [cmpNat]
  · rw [cmpInt_gt (by omega)]; simp [cmpNat]
  · exact same _ (.inr ⟨hx, hy⟩)

end TurVerif.KeyEnc
