import TurVerif.Model.Leaf
import TurVerif.Lemmas.Varint
import TurVerif.Lemmas.CmpBytes
/-!
The page invariant `WF` of the leaf-page model, and the model's list functions and `find_key`
described on the slot list cut at the position they work at (used by Props/C28.lean and
Props/C29.lean).
-/
namespace TurVerif.Leaf
open TurVerif.Simd
open TurVerif.C30 (cmp_eq_iff cmp_gt_iff cmp_lt_trans)

def Disj (a b : Cell) : Prop := a.off + a.size ≤ b.off ∨ b.off + b.size ≤ a.off
def KLt (a b : Cell) : Prop := cmpBytes a.key b.key = .lt

def sumSizes : List Cell → Nat
  | [] => 0
  | c :: cs => c.size + sumSizes cs

/-- C29, per leaf page. -/
structure WF (l : Leaf) : Prop where
  /-- the slot area is exactly `[24, freeStart)` -/
  fs : l.freeStart = 24 + 8 * l.cells.length
  /-- slot area and cell area do not overlap -/
  fse : l.freeStart ≤ l.freeEnd
  /-- the cell area `[freeEnd, 16384)` lies inside the page -/
  fe : l.freeEnd ≤ 16384
  /-- `frag_bytes` is a `u8` -/
  frag : l.frag < 256
  inPage : ∀ c ∈ l.cells, l.freeEnd ≤ c.off ∧ c.off + c.size ≤ 16384
  disj : l.cells.Pairwise Disj
  /-- live bytes never exceed the size of the cell area (a consequence of `inPage` + `disj`, kept as an
  explicit clause so that compaction can be shown to stay inside the page without a measure argument) -/
  live : sumSizes l.cells ≤ 16384 - l.freeEnd
  pre : ∀ c ∈ l.cells, c.pre = extractPrefix c.key
  sorted : l.cells.Pairwise KLt

theorem Disj.symm {a b : Cell} (h : Disj a b) : Disj b a := Or.symm h

theorem cellSize_pos (k v : List Nat) : 0 < cellSize k v := by
  have := Varint.len_pos v.length
  unfold cellSize; omega

/-! ### the slot list cut at a position

Every page operation works at one slot position; with the slot list written as `pre ++ post`
(insertion) or `pre ++ c :: post` (deletion, update) around that position, the list functions of the
model are plain concatenations and the `List` library applies. -/

theorem sumSizes_append (xs ys : List Cell) : sumSizes (xs ++ ys) = sumSizes xs + sumSizes ys := by
  induction xs with
  | nil => simp [sumSizes]
  | cons x xs ih => simp only [List.cons_append, sumSizes, ih, Nat.add_assoc]

theorem insertAt_append (pre post : List Cell) (a : Cell) :
    insertAt (pre ++ post) pre.length a = pre ++ a :: post := by
  induction pre with
  | nil => simp [insertAt]
  | cons x pre ih => simp [insertAt, ih]

theorem removeAt_append (pre post : List Cell) (c : Cell) :
    removeAt (pre ++ c :: post) pre.length = pre ++ post := by
  induction pre with
  | nil => rfl
  | cons x pre ih => simp [removeAt, ih]

theorem modifyAt_append (f : Cell → Cell) (pre post : List Cell) (c : Cell) :
    modifyAt f (pre ++ c :: post) pre.length = pre ++ f c :: post := by
  induction pre with
  | nil => rfl
  | cons x pre ih => simp [modifyAt, ih]

theorem cut_of_getElem? {xs : List Cell} {i : Nat} {c : Cell} (h : xs[i]? = some c) :
    ∃ pre post, xs = pre ++ c :: post ∧ i = pre.length := by
  induction xs generalizing i with
  | nil => simp at h
  | cons x xs ih =>
    cases i with
    | zero => exact ⟨[], xs, by simpa using h, rfl⟩
    | succ i =>
      obtain ⟨pre, post, rfl, rfl⟩ := ih (i := i) (by simpa using h)
      exact ⟨x :: pre, post, rfl, rfl⟩

theorem mem_mid {pre post : List Cell} {a x : Cell} :
    x ∈ pre ++ a :: post ↔ x = a ∨ x ∈ pre ++ post := by
  simp only [List.mem_append, List.mem_cons, or_left_comm]

theorem pairwise_replace_mid {R : Cell → Cell → Prop} {pre post : List Cell} {c c' : Cell}
    (h : (pre ++ c :: post).Pairwise R) (hl : ∀ b, R c b → R c' b) (hr : ∀ a, R a c → R a c') :
    (pre ++ c' :: post).Pairwise R := by
  rw [List.pairwise_append, List.pairwise_cons] at h ⊢
  refine ⟨h.1, ⟨fun b hb => hl b (h.2.1.1 b hb), h.2.1.2⟩, fun a ha b hb => ?_⟩
  rcases List.mem_cons.mp hb with rfl | hb
  · exact hr a (h.2.2 a ha c (List.mem_cons_self ..))
  · exact h.2.2 a ha b (List.mem_cons_of_mem _ hb)

/-! ### find_key specification: the position cuts the slots into the keys below the probe and the rest -/

theorem findFrom_append {k : List Nat} {pre : List Cell} (h : ∀ x ∈ pre, cmpBytes x.key k = .lt)
    (post : List Cell) (i : Nat) :
    findFrom k (pre ++ post) i = findFrom k post (i + pre.length) := by
  induction pre generalizing i with
  | nil => rfl
  | cons x pre ih =>
    have ⟨hx, hp⟩ := List.forall_mem_cons.mp h
    simp only [List.cons_append, findFrom, hx, ih hp, List.length_cons]
    congr 1; omega

/-- `find_key` on a cut with the probe absent (the rest is empty or starts above it) … -/
theorem findFrom_absent {k : List Nat} {pre post : List Cell} (i : Nat)
    (hpre : ∀ x ∈ pre, cmpBytes x.key k = .lt) (hgt : ∀ c ∈ post.head?, cmpBytes c.key k = .gt) :
    findFrom k (pre ++ post) i = .notFound (i + pre.length) := by
  rw [findFrom_append hpre]
  cases post with
  | nil => rfl
  | cons c post => simp only [findFrom, hgt c rfl]

/-- … and present (the rest starts with it) -/
theorem findFrom_present {k : List Nat} {pre post : List Cell} {c : Cell} (i : Nat)
    (hpre : ∀ x ∈ pre, cmpBytes x.key k = .lt) (hk : c.key = k) :
    findFrom k (pre ++ c :: post) i = .found (i + pre.length) := by
  rw [findFrom_append hpre]; simp only [findFrom, hk, C30.cmp_refl]

/-- Conversely every slot list has such a cut (`C30.cut`), so `find_key`'s answer is the position of
the cut and tells which of the two it is. -/
theorem findFrom_cut (k : List Nat) (cs : List Cell) (i : Nat) :
    ∃ pre post, cs = pre ++ post ∧ (∀ x ∈ pre, cmpBytes x.key k = .lt) ∧
      (∀ n, findFrom k cs i = .notFound n →
        n = i + pre.length ∧ ∀ c ∈ post.head?, cmpBytes c.key k = .gt) ∧
      (∀ n, findFrom k cs i = .found n →
        n = i + pre.length ∧ ∃ c post', post = c :: post' ∧ c.key = k) := by
  obtain ⟨pre, post, rfl, hpre, hgt | ⟨c, post', rfl, hk⟩⟩ := C30.cut Cell.key k cs
  · rw [findFrom_absent i hpre hgt]
    exact ⟨pre, post, rfl, hpre, fun n h => by cases h; exact ⟨rfl, hgt⟩, nofun⟩
  · rw [findFrom_present i hpre hk]
    exact ⟨pre, _, rfl, hpre, nofun, fun n h => by cases h; exact ⟨rfl, c, post', rfl, hk⟩⟩

theorem findKey_of_all_lt {l : Leaf} {k : List Nat} (h : ∀ c ∈ l.cells, cmpBytes c.key k = .lt) :
    findKey l k = .notFound l.cells.length := by
  have := findFrom_append h [] 0
  rwa [List.append_nil, Nat.zero_add] at this

theorem findFrom_le {k : List Nat} {cs : List Cell} {i j : Nat}
    (h : findFrom k cs i = .notFound j) : j ≤ i + cs.length := by
  obtain ⟨pre, post, rfl, _, hnf, _⟩ := findFrom_cut k cs i
  rw [(hnf j h).1, List.length_append]; omega

theorem findFrom_found_key {k : List Nat} {cs : List Cell} {i j : Nat}
    (h : findFrom k cs i = .found (i + j)) : ∃ c, cs[j]? = some c ∧ c.key = k := by
  obtain ⟨pre, post, rfl, _, _, hfd⟩ := findFrom_cut k cs i
  obtain ⟨hn, c, post', rfl, hk⟩ := hfd _ h
  have : j = pre.length := by omega
  subst this
  exact ⟨c, by simp, hk⟩

theorem compact_facts (cs : List Cell) (e : Nat) (h : sumSizes cs ≤ e) :
    (compactCells cs e).2 = e - sumSizes cs ∧
    (compactCells cs e).1.length = cs.length ∧
    (∀ c ∈ (compactCells cs e).1, (compactCells cs e).2 ≤ c.off ∧ c.off + c.size ≤ e) ∧
    (compactCells cs e).1.Pairwise Disj ∧
    sumSizes (compactCells cs e).1 = sumSizes cs ∧
    (compactCells cs e).1.map (fun c => (c.pre, c.key, c.val)) = cs.map (fun c => (c.pre, c.key, c.val)) := by
  induction cs generalizing e with
  | nil => simp [compactCells, sumSizes]
  | cons c cs ih =>
    simp only [sumSizes] at h
    have hc : c.size ≤ e := Nat.le_trans (Nat.le_add_right ..) h
    obtain ⟨h1, h2, h3, h4, h5, h6⟩ := ih (e - c.size) (Nat.le_sub_of_add_le' h)
    simp only [compactCells, sumSizes]
    refine ⟨by rw [h1, Nat.sub_sub], by simp [h2], ?_, ?_, by rw [h5]; rfl, by simp [h6]⟩
    · intro x hx
      rcases List.mem_cons.mp hx with rfl | hx
      · exact ⟨h1 ▸ Nat.sub_le .., Nat.le_of_eq (Nat.sub_add_cancel hc)⟩
      · exact ⟨(h3 x hx).1, Nat.le_trans (h3 x hx).2 (Nat.sub_le ..)⟩
    · exact List.pairwise_cons.mpr ⟨fun x hx => .inr (h3 x hx).2, h4⟩

/-- key order and stored prefixes are read off `(pre, key, val)` -/
theorem pairwise_of_map_key {xs ys : List Cell}
    (h : xs.map (fun c => (c.pre, c.key, c.val)) = ys.map (fun c => (c.pre, c.key, c.val)))
    (hs : ys.Pairwise KLt) : xs.Pairwise KLt := by
  have hk : xs.map (·.key) = ys.map (·.key) := by
    simpa [List.map_map, Function.comp_def] using congrArg (List.map (·.2.1)) h
  have : (ys.map (·.key)).Pairwise (cmpBytes · · = .lt) := List.pairwise_map.mpr hs
  rw [← hk] at this
  exact (List.pairwise_map (f := Cell.key)).mp this

theorem pre_of_map_key {xs ys : List Cell}
    (h : xs.map (fun c => (c.pre, c.key, c.val)) = ys.map (fun c => (c.pre, c.key, c.val)))
    (hs : ∀ c ∈ ys, c.pre = extractPrefix c.key) : ∀ c ∈ xs, c.pre = extractPrefix c.key := by
  have : ∀ t ∈ ys.map (fun c => (c.pre, c.key, c.val)), t.1 = extractPrefix t.2.1 :=
    List.forall_mem_map.mpr hs
  rw [← h] at this
  exact List.forall_mem_map.mp this

/-- an empty page is compacted like any other -/
theorem compact_eq (l : Leaf) :
    compact l = { l with cells := (compactCells l.cells 16384).1,
                         freeEnd := (compactCells l.cells 16384).2, frag := 0 } := by
  unfold compact
  split
  · rename_i he
    have : l.cells = [] := by simpa using he
    obtain ⟨cells, _, _, _, _⟩ := l
    subst this; rfl
  · rfl

/-! ### what a successful page operation returns -/

/-- the three inserts succeed only with room for the cell and its slot, and then `place` the cell -/
theorem insertCell_ok {l l' : Leaf} {k v : List Nat} (h : insertCell l k v = .ok l') :
    cellSize k v + 8 ≤ freeSpace l ∧ ∃ pos, findKey l k = .notFound pos ∧ l' = place l k v pos := by
  unfold insertCell at h
  split at h
  · cases h
  · rename_i hsp
    split at h
    · cases h
    · rename_i pos hf; cases h; exact ⟨Nat.le_of_not_lt hsp, pos, hf, rfl⟩

theorem insertCellAt_ok {l l' : Leaf} {k v : List Nat} {pos : Nat}
    (h : insertCellAt l k v pos = .ok l') :
    cellSize k v + 8 ≤ freeSpace l ∧ l' = place l k v pos := by
  unfold insertCellAt at h
  split at h
  · cases h
  · rename_i hsp
    split at h
    · cases h
    · cases h; exact ⟨Nat.le_of_not_lt hsp, rfl⟩

theorem insertAtEnd_ok {l l' : Leaf} {k v : List Nat} (h : insertAtEnd l k v = .ok l') :
    cellSize k v + 8 ≤ freeSpace l ∧ l' = place l k v l.cells.length := by
  unfold insertAtEnd at h
  split at h
  · cases h
  · rename_i hsp; cases h; exact ⟨Nat.le_of_not_lt hsp, rfl⟩

theorem shouldCompact_false {l : Leaf} (h : l.frag < 256) : shouldCompact l = false := by
  unfold shouldCompact; simp; omega

theorem satAddU8_lt (a b : Nat) : satAddU8 a b < 256 := by
  unfold satAddU8; split <;> omega

/-- the page after `delete_cell i`; by `shouldCompact_false` the compaction branch is never taken -/
def afterDelete (l : Leaf) (i : Nat) (c : Cell) : Leaf :=
  { l with cells := removeAt l.cells i, freeStart := l.freeStart - 8, frag := satAddU8 l.frag (c.size % 256) }

theorem deleteCell_eq {l : Leaf} {i : Nat} {c : Cell} (hc : l.cells[i]? = some c) :
    deleteCell l i = .ok (afterDelete l i c) := by
  unfold deleteCell
  simp only [hc]
  rw [shouldCompact_false (satAddU8_lt _ _)]
  simp [afterDelete]

theorem deleteCell_ok {l l' : Leaf} {i : Nat} (h : deleteCell l i = .ok l') :
    ∃ c, l.cells[i]? = some c ∧ l' = afterDelete l i c := by
  cases hc : l.cells[i]? with
  | none => simp [deleteCell, hc] at h
  | some c => rw [deleteCell_eq hc] at h; cases h; exact ⟨c, rfl, rfl⟩

end TurVerif.Leaf
