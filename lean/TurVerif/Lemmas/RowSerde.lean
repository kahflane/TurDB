import TurVerif.Model.RowSerde
import TurVerif.Lemmas.Cursor
/-!
Lemmas about the RowSerde model, for C33.  Round trips are proved at a cursor (`At`, Lemmas/Cursor):
a checked read of a known prefix of what the cursor sees returns that prefix and moves the cursor
past it.  Totality goes through `Good`, which the guards, the checked reads and the dispatch on the
discriminant all preserve.
-/
namespace TurVerif.RowSerde

@[simp] theorem beBytes_length (w v : Nat) : (beBytes w v).length = w := by
  induction w generalizing v with
  | zero => simp [beBytes]
  | succ w ih => simp [beBytes, ih]

theorem beVal_snoc (bs : List Nat) (b : Nat) : beVal (bs ++ [b]) = beVal bs * 256 + b := by
  simp [beVal, List.foldl_append]

theorem beVal_beBytes (w v : Nat) (h : v < 256 ^ w) : beVal (beBytes w v) = v := by
  induction w generalizing v with
  | zero =>
    have : v = 0 := by simpa using h
    simp [beBytes, beVal, this]
  | succ w ih =>
    have h2 : v / 256 < 256 ^ w := by
      rw [Nat.pow_succ] at h
      exact Nat.div_lt_of_lt_mul (by rw [Nat.mul_comm]; exact h)
    simp only [beBytes, beVal_snoc, ih _ h2]
    omega

/-- the float tests with the constants written out as numerals, so that `omega` can use them -/
theorem fLtZero_iff (b : Nat) : fLtZero b = true ↔ ¬ isNan b = true ∧ 0x8000000000000000 < b := by
  simp [fLtZero]
theorem fEqZero_iff (b : Nat) : fEqZero b = true ↔ b = 0 ∨ b = 0x8000000000000000 := by
  simp [fEqZero]

theorem rd_in {α : Type} (data : List Nat) (off n : Nat) (k : List Nat → Res α)
    (h : off + n ≤ data.length) : rd data off n k = k ((data.drop off).take n) := by
  simp [rd, slice, h]

end TurVerif.RowSerde

namespace TurVerif.At
open TurVerif.RowSerde
variable {data bs r : List Nat} {off n : Nat}

/-- `rd_in` at a cursor: the bytes read are the prefix the cursor sees -/
theorem rd {α : Type} (h : At data off (bs ++ r)) (hn : bs.length = n) (k : List Nat → Res α) :
    rd data off n k = k bs := by
  rw [rd_in data off n k (h.take_drop hn).1, (h.take_drop hn).2]

theorem rd_be {α : Type} {w x : Nat} (h : At data off (beBytes w x ++ r)) (k : List Nat → Res α) :
    RowSerde.rd data off w k = k (beBytes w x) := h.rd (beBytes_length w x) k

theorem adv_be {w x : Nat} (h : At data off (beBytes w x ++ r)) : At data (off + w) r :=
  h.adv (beBytes_length w x)

end TurVerif.At

namespace TurVerif.RowSerde

theorem dv_step {data l : List Nat} {off d : Nat} (h : At data off (d :: l)) :
    deserializeValue data off = deserializeBody data d (off + 1) := by
  have hlen : ¬ data.length ≤ off := by rw [h.length_eq, List.length_cons]; omega
  rw [deserializeValue, if_neg hlen, h.rd (bs := [d]) (n := 1) rfl]
  simp [beVal]

theorem readLenPrefixed_at {α : Type} {data lb bs r : List Nat} {off : Nat} (what : String)
    (h : At data off (lb ++ (bs ++ r))) (hl : lb.length = 4) (hv : beVal lb = bs.length)
    (k : List Nat → Nat → Res α) :
    readLenPrefixed data off what k = k bs (off + 4 + bs.length) := by
  have h2 := h.adv hl
  simp [readLenPrefixed, h.not_lt hl, hv, h2.not_lt rfl,
    h.rd hl, h2.rd rfl]

theorem readF32s_at (v : List Nat) (hv : ∀ x ∈ v, x < 256 ^ 4) {data r : List Nat} :
    ∀ {off : Nat} (acc : List Nat), At data off (v.flatMap (beBytes 4) ++ r) →
      readF32s data v.length off acc = .ok (acc.reverse ++ v) (off + v.length * 4) := by
  induction v with
  | nil => intro off acc _; simp [readF32s]
  | cons x xs ih =>
    intro off acc h
    rw [List.flatMap_cons, List.append_assoc] at h
    rw [List.length_cons, readF32s, h.rd_be, beVal_beBytes 4 x (hv x (by simp)),
      ih (fun y hy => hv y (by simp [hy])) (x :: acc) h.adv_be]
    simp only [List.reverse_cons, List.append_assoc, List.singleton_append, Res.ok.injEq, true_and]
    omega

theorem u32_roundtrip {n : Nat} (hn : n < 4294967296) : beVal (beBytes 4 (u32 n)) = n := by
  rw [beVal_beBytes 4 _ (by unfold u32; omega)]
  unfold u32; omega

theorem body_int8 {data bs r : List Nat} {off d : Nat} (hd : d = 0x12 ∨ d = 0x16)
    (h : At data off (bs ++ r)) (hb : bs.length = 8) :
    deserializeBody data d off = .ok (.int (beVal bs)) (off + 8) := by
  rcases hd with rfl | rfl <;> simp [deserializeBody, h.not_lt hb, h.rd hb]

theorem body_float8 {data bs r : List Nat} {off d : Nat} (hd : d = 0x13 ∨ d = 0x15)
    (h : At data off (bs ++ r)) (hb : bs.length = 8) :
    deserializeBody data d off = .ok (.float (beVal bs)) (off + 8) := by
  rcases hd with rfl | rfl <;> simp [deserializeBody, h.not_lt hb, h.rd hb]

theorem flatMap_beBytes4_length (v : List Nat) : (v.flatMap (beBytes 4)).length = v.length * 4 := by
  induction v with
  | nil => simp
  | cons x xs ih => simp [List.flatMap_cons, ih]; omega

/-! ### totality: no read outside the buffer, offsets stay inside -/

def Good {α : Type} (data : List Nat) (lo : Nat) (r : Res α) : Prop :=
  r ≠ .oob ∧ ∀ v o, r = .ok v o → lo ≤ o ∧ o ≤ data.length

section
variable {α : Type} {data : List Nat} {lo : Nat}

theorem good_err (e : String) : Good data lo (.err e : Res α) := by simp [Good]

theorem good_ok {o : Nat} {v : α} (h1 : lo ≤ o) (h2 : o ≤ data.length) : Good data lo (.ok v o) := by
  simp only [Good, ne_eq, reduceCtorEq, not_false_eq_true, Res.ok.injEq, true_and]
  intro _ _ h; omega

theorem good_mono {lo' : Nat} {r : Res α} (h : Good data lo r) (hl : lo' ≤ lo) : Good data lo' r :=
  ⟨h.1, fun v o e => ⟨Nat.le_trans hl (h.2 v o e).1, (h.2 v o e).2⟩⟩

theorem good_if {c : Prop} [Decidable c] {x y : Res α} (h1 : Good data lo x) (h2 : Good data lo y) :
    Good data lo (if c then x else y) := by
  split <;> assumption

theorem good_guard {c : Prop} [Decidable c] {e : String} {x : Res α} (h : ¬ c → Good data lo x) :
    Good data lo (if c then .err e else x) := by
  split
  · exact good_err _
  · exact h ‹_›

theorem good_rd {off n : Nat} {k : List Nat → Res α} (h : off + n ≤ data.length)
    (hk : ∀ bs, Good data lo (k bs)) : Good data lo (rd data off n k) := by
  rw [rd_in data off n k h]; exact hk _
end

theorem readF32s_total (data : List Nat) (count off : Nat) (acc : List Nat)
    (h : off + count * 4 ≤ data.length) :
    ∃ v, readF32s data count off acc = .ok v (off + count * 4) := by
  fun_induction readF32s data count off acc with
  | case1 off acc => exact ⟨_, by rw [Nat.zero_mul, Nat.add_zero]⟩
  | case2 n off acc ih =>
    rw [rd_in data off 4 _ (by omega)]
    obtain ⟨v, hv⟩ := ih _ (by omega)
    exact ⟨v, by rw [hv, Res.ok.injEq]; exact ⟨rfl, by omega⟩⟩

theorem readLenPrefixed_total {α : Type} {data : List Nat} {off lo : Nat} {what : String}
    {k : List Nat → Nat → Res α}
    (hk : ∀ bs o, off + 4 ≤ o → o ≤ data.length → Good data lo (k bs o)) :
    Good data lo (readLenPrefixed data off what k) :=
  good_guard fun _ => good_rd (by omega) fun _ => good_guard fun _ => good_rd (by omega) fun _ =>
    hk _ _ (by omega) (by omega)

theorem body_total (data : List Nat) (disc off : Nat) (ho : off ≤ data.length) :
    Good data off (deserializeBody data disc off) := by
  have ok0 : ∀ v : Value, Good data off (.ok v off) := fun _ => good_ok (Nat.le_refl _) ho
  have lp : ∀ (what : String) (mk : List Nat → Value),
      Good data off (readLenPrefixed data off what fun bs off' => .ok (mk bs) off') :=
    fun _ _ => readLenPrefixed_total fun _ _ _ _ => good_ok (by omega) (by omega)
  have f1 : ∀ (n : Nat) (e : String) (mk : List Nat → Value), Good data off
      (if data.length < off + n then .err e else rd data off n fun bs => .ok (mk bs) (off + n)) :=
    fun _ _ _ => good_guard fun _ => good_rd (by omega) fun _ => good_ok (by omega) (by omega)
  have f2 : ∀ (n₁ n₂ n : Nat) (e : String) (mk : List Nat → List Nat → Value), n = n₁ + n₂ → Good data off
      (if data.length < off + n then .err e else
        rd data off n₁ fun a => rd data (off + n₁) n₂ fun b => .ok (mk a b) (off + n₁ + n₂)) :=
    fun _ _ _ _ _ _ => good_guard fun _ => good_rd (by omega) fun _ => good_rd (by omega) fun _ =>
      good_ok (by omega) (by omega)
  -- `split` and `simp` run out of steps on the 26-fold dispatch over a variable discriminant;
  -- `good_if` takes it one test at a time, in the order of the definition.
  unfold deserializeBody
  apply good_if (ok0 _)
  apply good_if (ok0 _)
  apply good_if (f1 _ _ _)
  apply good_if (f1 _ _ _)
  apply good_if (ok0 _)
  apply good_if (ok0 _)
  apply good_if (ok0 _)
  apply good_if (f1 _ _ _)
  apply good_if (f1 _ _ _)
  apply good_if (readLenPrefixed_total fun _ _ _ _ => good_if (good_ok (by omega) (by omega)) (good_err _))
  apply good_if (lp _ _)
  apply good_if
  · refine good_guard fun _ => good_rd (by omega) fun cb => good_guard fun h2 => ?_
    have h2 := Nat.le_of_not_lt h2
    obtain ⟨v, hv⟩ := readF32s_total data _ (off + 4) [] h2
    simp only [hv]
    exact good_ok (by omega) h2
  apply good_if (f1 _ _ _)
  apply good_if (f1 _ _ _)
  apply good_if (f1 _ _ _)
  apply good_if (f1 _ _ _)
  apply good_if (lp _ _)
  apply good_if (f2 _ _ _ _ _ (by decide))
  apply good_if (good_guard fun _ => good_rd (by omega) fun _ => good_rd (by omega) fun _ =>
    good_rd (by omega) fun _ => good_ok (by omega) (by omega))
  apply good_if (f2 _ _ _ _ _ (by decide))
  apply good_if (good_guard fun _ => good_rd (by omega) fun _ => good_rd (by omega) fun _ =>
    good_rd (by omega) fun _ => good_rd (by omega) fun _ => good_ok (by omega) (by omega))
  apply good_if (good_guard fun _ => good_rd (by omega) fun _ => good_rd (by omega) fun _ =>
    good_rd (by omega) fun _ => good_ok (by omega) (by omega))
  apply good_if (f2 _ _ _ _ _ (by decide))
  apply good_if (f2 _ _ _ _ _ (by decide))
  apply good_if (lp _ _)
  exact good_err _
end TurVerif.RowSerde
