import TurVerif.Model.BTree
import TurVerif.Lemmas.OMap
/-! The tree invariant `WFb` and, level by level (`Child` is what a level hands to the one above),
that search, insert and delete on a page of children do on the concatenated content what the ordered
map does on a sorted list. -/
namespace TurVerif.BTree
open TurVerif.Simd (cmpBytes)
open TurVerif.OMap
open TurVerif.C30 (cmp_eq_iff cmp_gt_iff cmp_lt_trans)

def lt (a b : Key) : Prop := cmpBytes a b = .lt
/-- `a ≤ b` as "not b < a" (exactly what `find_child` tests) -/
def le (a b : Key) : Prop := ¬ cmpBytes b a = .lt

theorem lt_irrefl (a : Key) : ¬ lt a a := by unfold lt; rw [C30.cmp_refl]; simp
theorem lt_trans {a b c : Key} (h1 : lt a b) (h2 : lt b c) : lt a c := cmp_lt_trans _ _ _ h1 h2
theorem le_of_lt {a b : Key} (h : lt a b) : le a b := fun h' => lt_irrefl a (lt_trans h h')
theorem le_refl (a : Key) : le a a := lt_irrefl a

theorem lt_of_lt_of_le {a b c : Key} (h1 : lt a b) (h2 : le b c) : lt a c := by
  unfold lt le at *
  cases h : cmpBytes a c with
  | lt => rfl
  | eq => have := (cmp_eq_iff _ _).mp h; subst this; exact absurd h1 h2
  | gt => exact absurd (cmp_lt_trans _ _ _ ((cmp_gt_iff _ _).mp h) h1) h2

theorem lt_of_le_of_lt {a b c : Key} (h1 : le a b) (h2 : lt b c) : lt a c := by
  unfold lt le at *
  cases h : cmpBytes a c with
  | lt => rfl
  | eq => have := (cmp_eq_iff _ _).mp h; subst this; exact absurd h2 h1
  | gt => exact absurd (cmp_lt_trans _ _ _ h2 ((cmp_gt_iff _ _).mp h)) h1

theorem le_trans {a b c : Key} (h1 : le a b) (h2 : le b c) : le a c :=
  fun h => h2 (lt_of_lt_of_le h h1)

def geLo : Option Key → Key → Prop
  | none, _ => True
  | some l, k => le l k
def ltHi : Option Key → Key → Prop
  | none, _ => True
  | some h, k => lt k h
def InB (lo hi : Option Key) (k : Key) : Prop := geLo lo k ∧ ltHi hi k

theorem geLo_trans {lo : Option Key} {a b : Key} (h1 : geLo lo a) (h2 : le a b) : geLo lo b := by
  cases lo with
  | none => trivial
  | some l => exact le_trans h1 h2

theorem ltHi_trans {hi : Option Key} {a b : Key} (h1 : lt a b) (h2 : ltHi hi b) : ltHi hi a := by
  cases hi with
  | none => trivial
  | some h => exact lt_trans h1 h2

/-! ### the tree invariant (C29, tree level): separators bound their subtrees -/

def Sep (lo hi : Option Key) (s : Key) : Prop :=
  (match lo with | none => True | some l => lt l s) ∧ ltHi hi s

theorem Sep.inB {lo hi : Option Key} {s : Key} (h : Sep lo hi s) : InB lo hi s := by
  refine ⟨?_, h.2⟩
  cases lo with
  | none => trivial
  | some l => exact le_of_lt h.1

/-- slots `(child, sep)`: the child holds keys in `[lo, sep)`, the rest of the page keys in `[sep, hi)` -/
def WFs {α : Type} (wf : α → Option Key → Option Key → Prop) :
    List (α × Key) → α → Option Key → Option Key → Prop
  | [], right, lo, hi => wf right lo hi
  | (c, s) :: rest, right, lo, hi => wf c lo (some s) ∧ Sep lo hi s ∧ WFs wf rest right (some s) hi

/-- `WFb n t lo hi`: every leaf is key-sorted, every key `k` of the subtree satisfies lo ≤ k < hi,
every separator lies strictly inside the bounds of its page and bounds its neighbours' subtrees
(left < sep ≤ right), recursively. (Uniform leaf depth is built into `T n`.) -/
def WFb : (n : Nat) → T n → Option Key → Option Key → Prop
  | 0 => fun (es : List Entry) lo hi => Sorted es ∧ ∀ e ∈ es, InB lo hi e.1
  | n + 1 => fun (nd : Node (T n)) lo hi => WFs (WFb n) nd.slots nd.right lo hi

/-- what a level must provide to the level above -/
structure Child {α : Type} (wf : α → Option Key → Option Key → Prop) (f : α → List Entry) : Prop where
  bounds : ∀ a lo hi, wf a lo hi → ∀ e ∈ f a, InB lo hi e.1
  sorted : ∀ a lo hi, wf a lo hi → Sorted (f a)

def absS {α : Type} (f : α → List Entry) (slots : List (α × Key)) (right : α) : List Entry :=
  (slots.map fun s => f s.1).flatten ++ f right

theorem absS_cons {α : Type} (f : α → List Entry) (c : α) (s : Key) (rest : List (α × Key)) (right : α) :
    absS f ((c, s) :: rest) right = f c ++ absS f rest right := by
  simp [absS, List.append_assoc]

theorem bounds_slots {α : Type} {wf : α → Option Key → Option Key → Prop} {f : α → List Entry}
    (H : Child wf f) {slots : List (α × Key)} {right : α} {lo hi : Option Key}
    (w : WFs wf slots right lo hi) : ∀ e ∈ absS f slots right, InB lo hi e.1 := by
  induction slots generalizing lo with
  | nil => simpa [absS] using H.bounds right lo hi w
  | cons x rest ih =>
    obtain ⟨c, s⟩ := x
    obtain ⟨wc, ws, wr⟩ := w
    intro e he
    rw [absS_cons] at he
    rcases List.mem_append.mp he with he | he
    · have := H.bounds c lo (some s) wc e he
      exact ⟨this.1, ltHi_trans this.2 ws.2⟩
    · have := ih wr e he
      exact ⟨geLo_trans ws.inB.1 this.1, this.2⟩

theorem sorted_slots {α : Type} {wf : α → Option Key → Option Key → Prop} {f : α → List Entry}
    (H : Child wf f) {slots : List (α × Key)} {right : α} {lo hi : Option Key}
    (w : WFs wf slots right lo hi) : Sorted (absS f slots right) := by
  induction slots generalizing lo with
  | nil => simpa [absS] using H.sorted right lo hi w
  | cons x rest ih =>
    obtain ⟨c, s⟩ := x
    obtain ⟨wc, ws, wr⟩ := w
    rw [absS_cons]
    unfold Sorted
    rw [List.pairwise_append]
    refine ⟨H.sorted c lo (some s) wc, ih wr, ?_⟩
    intro a ha b hb
    have h1 := (H.bounds c lo (some s) wc a ha).2
    have h2 := (bounds_slots H wr b hb).1
    exact lt_of_lt_of_le h1 h2

theorem child_level : (n : Nat) → Child (WFb n) (absT n)
  | 0 => ⟨fun _ _ _ w => w.2, fun _ _ _ w => w.1⟩
  | n + 1 =>
    ⟨fun _ _ _ w => bounds_slots (child_level n) w, fun _ _ _ w => sorted_slots (child_level n) w⟩

theorem route_slots {α : Type} {wf : α → Option Key → Option Key → Prop} {f : α → List Entry}
    (H : Child wf f) {g : α → Option (List Nat)} {k : Key}
    (Hg : ∀ a lo hi, wf a lo hi → InB lo hi k → g a = lookup (f a) k)
    {slots : List (α × Key)} {right : α} {lo hi : Option Key}
    (w : WFs wf slots right lo hi) (hk : InB lo hi k) :
    Node.route g k slots right = lookup (absS f slots right) k := by
  induction slots generalizing lo with
  | nil => simpa [Node.route, absS] using Hg right lo hi w hk
  | cons x rest ih =>
    obtain ⟨c, s⟩ := x
    obtain ⟨wc, ws, wr⟩ := w
    rw [absS_cons]
    simp only [Node.route]
    split
    · rename_i hlt
      rw [Hg c lo (some s) wc ⟨hk.1, hlt⟩]
      refine (lookup_append_left ?_).symm
      intro e he
      exact lt_of_lt_of_le hlt (bounds_slots H wr e he).1
    · rename_i hge
      rw [ih wr ⟨hge, hk.2⟩]
      refine (lookup_append_right ?_).symm
      intro e he
      exact lt_of_lt_of_le (H.bounds c lo (some s) wc e he).2 hge

theorem search_level : (n : Nat) → ∀ (t : T n) (lo hi : Option Key) (k : Key),
    WFb n t lo hi → InB lo hi k → searchT n t k = lookup (absT n t) k
  | 0 => fun _ _ _ _ _ _ => rfl
  | n + 1 => fun _ _ _ k w hk =>
    route_slots (child_level n) (fun a lo hi wa ha => search_level n a lo hi k wa ha) w hk

def Ins.abs {α : Type} (f : α → List Entry) : Ins α → List Entry
  | .one t => f t
  | .two l _ r => f l ++ f r

def InsWF {α : Type} (wf : α → Option Key → Option Key → Prop) : Ins α → Option Key → Option Key → Prop
  | .one t, lo, hi => wf t lo hi
  | .two l s r, lo, hi => wf l lo (some s) ∧ Sep lo hi s ∧ wf r (some s) hi

/-- Descent into the child `find_child` picks, for any operation `op` on the content that passes
over a block of smaller keys and stops in front of a block of greater keys (`insertNew · k v`,
`erase · k`): if `ins` does `op` on a child, `insSlots ins` does it on the page. -/
theorem insSlots_spec {α : Type} {wf : α → Option Key → Option Key → Prop} {f : α → List Entry}
    (H : Child wf f) {ins : α → Ins α} {k : Key} {op : List Entry → List Entry}
    (hl : ∀ {A B}, (∀ e ∈ B, lt k e.1) → op (A ++ B) = op A ++ B)
    (hr : ∀ {A B}, (∀ e ∈ A, lt e.1 k) → op (A ++ B) = A ++ op B)
    (Hi : ∀ a lo hi, wf a lo hi → InB lo hi k →
      InsWF wf (ins a) lo hi ∧ Ins.abs f (ins a) = op (f a))
    {slots : List (α × Key)} {right : α} {lo hi : Option Key}
    (w : WFs wf slots right lo hi) (hk : InB lo hi k) :
    WFs wf (Node.insSlots ins k slots right).1 (Node.insSlots ins k slots right).2 lo hi ∧
    absS f (Node.insSlots ins k slots right).1 (Node.insSlots ins k slots right).2 =
      op (absS f slots right) := by
  induction slots generalizing lo with
  | nil =>
    obtain ⟨h1, h2⟩ := Hi right lo hi w hk
    simp only [Node.insSlots]
    cases hright : ins right with
    | one r' =>
      rw [hright] at h1 h2
      exact ⟨h1, by simpa [absS, Ins.abs] using h2⟩
    | two l s r =>
      rw [hright] at h1 h2
      exact ⟨⟨h1.1, h1.2.1, h1.2.2⟩, by simpa [absS, Ins.abs] using h2⟩
  | cons x rest ih =>
    obtain ⟨c, s⟩ := x
    obtain ⟨wc, ws, wr⟩ := w
    simp only [Node.insSlots]
    split
    · rename_i hlt
      obtain ⟨h1, h2⟩ := Hi c lo (some s) wc ⟨hk.1, hlt⟩
      have hrest : ∀ e ∈ absS f rest right, lt k e.1 := fun e he =>
        lt_of_lt_of_le hlt (bounds_slots H wr e he).1
      cases hc : ins c with
      | one c' =>
        rw [hc] at h1 h2
        refine ⟨⟨h1, ws, wr⟩, ?_⟩
        simp only [Ins.abs] at h2
        rw [absS_cons, absS_cons, h2, hl hrest]
      | two l s' r =>
        rw [hc] at h1 h2
        obtain ⟨wl, wsep, wr'⟩ := h1
        refine ⟨⟨wl, ⟨wsep.1, ltHi_trans wsep.2 ws.2⟩, wr', ⟨wsep.2, ws.2⟩, wr⟩, ?_⟩
        simp only [Ins.abs] at h2
        rw [absS_cons, absS_cons, absS_cons, ← List.append_assoc, h2, hl hrest]
    · rename_i hge
      obtain ⟨h1, h2⟩ := ih wr ⟨hge, hk.2⟩
      refine ⟨⟨wc, ws, h1⟩, ?_⟩
      rw [absS_cons, absS_cons, h2]
      exact (hr fun e he => lt_of_lt_of_le (H.bounds c lo (some s) wc e he).2 hge).symm

theorem wfs_split {α : Type} {wf : α → Option Key → Option Key → Prop}
    {pre : List (α × Key)} {c : α} {s : Key} {post : List (α × Key)} {right : α} {lo hi : Option Key}
    (w : WFs wf (pre ++ (c, s) :: post) right lo hi) :
    WFs wf pre c lo (some s) ∧ Sep lo hi s ∧ WFs wf post right (some s) hi := by
  induction pre generalizing lo with
  | nil => exact w
  | cons x pre ih =>
    obtain ⟨c1, s1⟩ := x
    obtain ⟨wc, ws, wr⟩ := w
    obtain ⟨h1, h2, h3⟩ := ih wr
    refine ⟨⟨wc, ⟨ws.1, h2.1⟩, h1⟩, ⟨?_, h2.2⟩, h3⟩
    cases lo with
    | none => trivial
    | some l => exact lt_trans ws.1 h2.1

theorem absS_append {α : Type} (f : α → List Entry) (pre : List (α × Key)) (c : α) (s : Key)
    (post : List (α × Key)) (right : α) :
    absS f (pre ++ (c, s) :: post) right = absS f pre c ++ absS f post right := by
  induction pre with
  | nil => simp [absS, List.append_assoc]
  | cons x pre ih =>
    obtain ⟨c1, s1⟩ := x
    rw [List.cons_append, absS_cons, absS_cons, ih, List.append_assoc]

theorem split_spec {α : Type} {wf : α → Option Key → Option Key → Prop} {f : α → List Entry}
    (p : Policy) (nd : Node α) {lo hi : Option Key} (w : WFs wf nd.slots nd.right lo hi) :
    InsWF (fun (nd : Node α) lo hi => WFs wf nd.slots nd.right lo hi) (Node.split p nd) lo hi ∧
    Ins.abs (Node.abs f) (Node.split p nd) = Node.abs f nd := by
  unfold Node.split
  cases p.node nd.slots.length with
  | none => exact ⟨w, rfl⟩
  | some m =>
    dsimp only
    cases hd : nd.slots.drop m with
    | nil => exact ⟨w, rfl⟩
    | cons x post =>
      obtain ⟨c, s⟩ := x
      have hsl : nd.slots = nd.slots.take m ++ (c, s) :: post := by
        rw [← hd, List.take_append_drop]
      rw [hsl] at w
      obtain ⟨h1, h2, h3⟩ := wfs_split w
      refine ⟨⟨h1, h2, h3⟩, ?_⟩
      show absS f (nd.slots.take m) c ++ absS f post nd.right = absS f nd.slots nd.right
      conv => rhs; rw [hsl]
      rw [absS_append]

theorem splitLeaf_spec (p : Policy) {es : List Entry} {lo hi : Option Key}
    (w : WFb 0 es lo hi) :
    InsWF (WFb 0) (splitLeaf p es) lo hi ∧ Ins.abs (absT 0) (splitLeaf p es) = es := by
  unfold splitLeaf
  cases p.leaf es with
  | none => exact ⟨w, rfl⟩
  | some m =>
    dsimp only
    split
    · exact ⟨w, rfl⟩
    · rename_i hm
      cases hd : es.drop m with
      | nil => exact ⟨w, rfl⟩
      | cons e rest =>
        -- `es = A ++ e :: rest` with the left half `A` non-empty
        have hes : es = es.take m ++ e :: rest := by rw [← hd, List.take_append_drop]
        obtain ⟨a0, ha0⟩ : ∃ a0, a0 ∈ es.take m := by
          have : m < es.length := by have := congrArg List.length hd; simp at this; omega
          cases ht : es.take m with
          | nil => have := congrArg List.length ht; rw [List.length_take, List.length_nil] at this; omega
          | cons a0 _ => exact ⟨a0, List.mem_cons_self ..⟩
        generalize es.take m = A at hes ha0 ⊢
        subst hes
        obtain ⟨sA, sR, cross⟩ := List.pairwise_append.mp w.1
        have he := cross a0 ha0 e (List.mem_cons_self ..)
        have hb := fun x hx => w.2 x (List.mem_append_left _ hx)
        have hb' := fun x hx => w.2 x (List.mem_append_right _ hx)
        refine ⟨⟨⟨sA, fun a ha => ⟨(hb a ha).1, cross a ha e (List.mem_cons_self ..)⟩⟩,
          ⟨?_, (hb' e (List.mem_cons_self ..)).2⟩, sR, fun b hb2 => ⟨?_, (hb' b hb2).2⟩⟩, rfl⟩
        · cases lo with
          | none => trivial
          | some l => exact lt_of_le_of_lt (hb a0 ha0).1 he
        · show le e.1 b.1
          rcases List.mem_cons.mp hb2 with rfl | hb3
          · exact le_refl _
          · exact le_of_lt ((List.pairwise_cons.mp sR).1 b hb3)

theorem insert_level (p : Policy) (k : Key) (v : List Nat) : (n : Nat) → ∀ (t : T n) (lo hi : Option Key),
    WFb n t lo hi → InB lo hi k →
    InsWF (WFb n) (insertT p k v n t) lo hi ∧ Ins.abs (absT n) (insertT p k v n t) = insertNew (absT n t) k v
  | 0 => fun es lo hi w hk => by
    have w' : WFb 0 (insertNew (show List Entry from es) k v) lo hi := by
      refine ⟨sorted_insertNew w.1 k v, ?_⟩
      intro e he
      rcases mem_insertNew_sub he with rfl | he
      · exact hk
      · exact w.2 e he
    exact splitLeaf_spec p w'
  | n + 1 => fun nd lo hi w hk => by
    have h := insSlots_spec (child_level n) (ins := insertT p k v n) (op := (insertNew · k v))
      (insertNew_append_left v) (insertNew_append_right v)
      (fun a lo hi wa ha => insert_level p k v n a lo hi wa ha) w hk
    have hs := split_spec (f := absT n) p
      ⟨(Node.insSlots (insertT p k v n) k nd.slots nd.right).1,
       (Node.insSlots (insertT p k v n) k nd.slots nd.right).2⟩ h.1
    refine ⟨hs.1, ?_⟩
    show Ins.abs (Node.abs (absT n)) (Node.split p _) = insertNew (absS (absT n) nd.slots nd.right) k v
    rw [hs.2, ← h.2]; rfl

/-- `delete` descends like `insert`, with a child that never splits -/
theorem mapRoute_eq_insSlots {α : Type} (del : α → α) (k : Key) (slots : List (α × Key)) (right : α) :
    Node.mapRoute del k slots right = Node.insSlots (fun a => .one (del a)) k slots right := by
  induction slots with
  | nil => rfl
  | cons x rest ih => simp only [Node.mapRoute, Node.insSlots, ih]

theorem delete_level (k : Key) : (n : Nat) → ∀ (t : T n) (lo hi : Option Key),
    WFb n t lo hi → InB lo hi k →
    WFb n (deleteT k n t) lo hi ∧ absT n (deleteT k n t) = erase (absT n t) k
  | 0 => fun _ _ _ w _ =>
    ⟨⟨sorted_erase w.1 k, fun e he => w.2 e ((erase_sublist _ k).subset he)⟩, rfl⟩
  | n + 1 => fun nd lo hi w hk => by
    have h := insSlots_spec (child_level n) (ins := fun a => .one (deleteT k n a)) (op := (erase · k))
      erase_append_left erase_append_right
      (fun a lo hi wa ha => delete_level k n a lo hi wa ha) w hk
    rwa [← mapRoute_eq_insSlots] at h

theorem leaves_flatten : (n : Nat) → ∀ t : T n, (leavesT n t).flatten = absT n t
  | 0 => fun (es : List Entry) => List.append_nil es
  | n + 1 => fun nd => by
    show (Node.leaves (leavesT n) nd).flatten = Node.abs (absT n) nd
    unfold Node.leaves Node.abs
    rw [List.flatten_append, List.flatten_flatten, List.map_map, leaves_flatten n nd.right]
    congr 2
    apply List.map_congr_left
    intro s _
    exact leaves_flatten n s.1

theorem enumFwd_nonempty {ls : List (List Entry)} (h : ∀ l ∈ ls, l ≠ []) : enumFwd ls = ls.flatten := by
  induction ls with
  | nil => rfl
  | cons l ls ih =>
    have hl : l ≠ [] := h l (List.mem_cons_self ..)
    have : l.isEmpty = false := by cases l <;> simp_all
    simp only [enumFwd, this, List.flatten_cons]
    rw [ih (fun x hx => h x (List.mem_cons_of_mem _ hx))]; rfl

end TurVerif.BTree
