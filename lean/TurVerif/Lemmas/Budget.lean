import TurVerif.Model.Budget
import TurVerif.Lemmas.ListSet
/-!
Counter lists of the budget model: reading after a write, the total after a write, and the partial
sums that `total_used()` runs through; nothing in that part depends on there being five counters.
Then the moves of the model as a relation (`Local`, `StepTo`), which `step_cases` derives from `step`
once.
-/
namespace TurVerif.Budget

theorem getD_set (l : List Nat) (p q v : Nat) :
    (l.set p v).getD q 0 = if p = q ∧ p < l.length then v else l.getD q 0 := by
  simp only [List.getD_eq_getElem?_getD, List.getElem?_set]
  by_cases h : p = q
  · subst h
    by_cases h2 : p < l.length <;> simp [h2]
  · simp [h]

/-- the sum `State.totalUsed` computes -/
def total (u : List Nat) : Nat := u.foldl (· + ·) 0

theorem total_set {u : List Nat} {p : Nat} (v : Nat) (hp : p < u.length) :
    total (u.set p v) + u.getD p 0 = total u + v := by
  unfold total
  rw [← List.sum_eq_foldl_nat, ← List.sum_eq_foldl_nat]
  refine sum_set v ?_
  rw [List.getD_eq_getElem?_getD, List.getElem?_eq_getElem hp]; rfl

/-- writing `v` to counter `p` raises the total by at most what `v` exceeds the old value by (a
pool index beyond the list writes nothing) -/
theorem total_set_le {u : List Nat} {p v d : Nat} (h : v ≤ u.getD p 0 + d) :
    total (u.set p v) ≤ total u + d := by
  by_cases hp : p < u.length
  · apply Nat.le_of_add_le_add_right (b := u.getD p 0)
    rw [total_set v hp, Nat.add_right_comm, Nat.add_assoc]
    exact Nat.add_le_add_left h _
  · rw [List.set_eq_of_length_le (Nat.le_of_not_lt hp)]; exact Nat.le_add_right ..

def psum (u : List Nat) (i : Nat) : Nat := total (u.take i)

theorem psum_succ (u : List Nat) (i : Nat) : psum u (i + 1) = psum u i + u.getD i 0 := by
  unfold psum total
  rw [List.take_add_one, List.foldl_append, List.getD_eq_getElem?_getD]
  cases u[i]? <;> rfl

theorem psum_of_length_le {u : List Nat} {n : Nat} (h : u.length ≤ n) : psum u n = total u := by
  unfold psum; rw [List.take_of_length_le h]

/-- the fifth load completes the total -/
theorem psum_end {u : List Nat} {i acc : Nat} (hl : u.length = 5) (hi : ¬ i + 1 < 5)
    (h : acc = psum u i) : acc + u.getD i 0 = total u := by
  rw [h, ← psum_succ, psum_of_length_le (Nat.le_trans (Nat.le_of_eq hl) (Nat.le_of_not_lt hi))]

/-- `Local u lim t t'`: thread `t`, reading counters `u` and limit `lim`, becomes `t'` without
writing to the shared state.  One constructor per branch of `step` other than the two successful
compare-exchanges, with those of the branch's conditions that some proof needs. -/
inductive Local (u : List Nat) (lim : Nat) (t : Thread) : Thread → Prop
  | allocZero {p : Nat} {rest : List Op} (hpc : t.pc = .idle) (hprog : t.prog = .alloc p 0 :: rest) :
      Local u lim t { t with prog := rest, results := true :: t.results }
  | allocStart {p b : Nat} {rest : List Op} (hpc : t.pc = .idle)
      (hprog : t.prog = .alloc p b :: rest) (hb : b ≠ 0) :
      Local u lim t { t with prog := rest, pc := .aLoadPool p b }
  | relZero {p : Nat} {rest : List Op} (hpc : t.pc = .idle) (hprog : t.prog = .release p 0 :: rest) :
      Local u lim t { t with prog := rest }
  | relStart {p b : Nat} {rest : List Op} (hpc : t.pc = .idle)
      (hprog : t.prog = .release p b :: rest) :
      Local u lim t { t with prog := rest, pc := .rLoad p b }
  | loadPool {p b : Nat} (hpc : t.pc = .aLoadPool p b) :
      Local u lim t { t with pc := .aTot p b (u.getD p 0) 0 0 }
  | tot {p b cur i acc : Nat} (hpc : t.pc = .aTot p b cur i acc) :
      Local u lim t { t with pc := .aTot p b cur (i + 1) (acc + u.getD i 0) }
  | totEnd {p b cur i acc : Nat} (hpc : t.pc = .aTot p b cur i acc) (hi : ¬ i + 1 < 5) :
      Local u lim t { t with pc := .aLimit p b cur (acc + u.getD i 0) }
  | refuse {p b cur tot : Nat} (hpc : t.pc = .aLimit p b cur tot) :
      Local u lim t { t with pc := .idle, results := false :: t.results }
  | toShared {p b cur tot : Nat} (hpc : t.pc = .aLimit p b cur tot) (h : ¬ tot + b > lim) :
      Local u lim t { t with pc := .aShrLimit p b cur }
  | toCas {p b cur tot : Nat} (hpc : t.pc = .aLimit p b cur tot) (h : ¬ tot + b > lim) :
      Local u lim t { t with pc := .aCas p b cur }
  | shrLimit {p b cur : Nat} (hpc : t.pc = .aShrLimit p b cur) :
      Local u lim t { t with pc := .aShrTot p b cur lim 0 0 }
  | shrTot {p b cur l i acc : Nat} (hpc : t.pc = .aShrTot p b cur l i acc) :
      Local u lim t { t with pc := .aShrTot p b cur l (i + 1) (acc + u.getD i 0) }
  | shrRefuse {p b cur l i acc : Nat} (hpc : t.pc = .aShrTot p b cur l i acc) :
      Local u lim t { t with pc := .idle, results := false :: t.results }
  | shrCas {p b cur l i acc : Nat} (hpc : t.pc = .aShrTot p b cur l i acc) :
      Local u lim t { t with pc := .aCas p b cur }
  | casFail {p b cur : Nat} (hpc : t.pc = .aCas p b cur) :
      Local u lim t { t with pc := .aLoadPool p b }
  | rLoad {p b : Nat} (hpc : t.pc = .rLoad p b) :
      Local u lim t { t with pc := .rCas p b (u.getD p 0) }
  | rCasFail {p b cur : Nat} (hpc : t.pc = .rCas p b cur) :
      Local u lim t { t with pc := .rLoad p b }

/-- `StepTo s tid t s'`: thread `tid`, which is `t` in `s`, can move to `s'`: a move that leaves the
shared state alone, or a successful compare-exchange of `allocate` or of `release` (the loaded
value is the counter's) -/
inductive StepTo (s : State) (tid : Nat) (t : Thread) : State → Prop
  | quiet (t' : Thread) (h : Local s.used s.limit t t') : StepTo s tid t (setThread s tid t')
  | allocCas (p b : Nat) (hpc : t.pc = .aCas p b (s.used.getD p 0)) :
      StepTo s tid t (setThread { s with
          used := s.used.set p (s.used.getD p 0 + b),
          allocd := s.allocd.set p (s.allocd.getD p 0 + b) } tid
        { t with pc := .idle, results := true :: t.results })
  | relCas (p b : Nat) (hpc : t.pc = .rCas p b (s.used.getD p 0)) :
      StepTo s tid t (setThread { s with
          used := s.used.set p (s.used.getD p 0 - b),
          released := s.released.set p
            (s.released.getD p 0 + (s.used.getD p 0 - (s.used.getD p 0 - b))) } tid
        { t with pc := .idle })

/-- by the case principle of `step`: its branches in the order of the definition -/
theorem step_cases {s s' : State} {tid : Nat} (hs : step s tid = some s') :
    ∃ t, s.threads[tid]? = some t ∧ StepTo s tid t s' := by
  have mk : ∀ {t x}, s.threads[tid]? = some t → StepTo s tid t x → some x = some s' →
      ∃ t, s.threads[tid]? = some t ∧ StepTo s tid t s' :=
    fun ht hk hs => Option.some.inj hs ▸ ⟨_, ht, hk⟩
  revert hs
  fun_cases step s tid
  case case1 | case2 => nofun
  case case3 hq p rest hpr => exact mk ‹_› (.quiet _ (.allocZero hq hpr))
  case case4 hq p b rest hpr hb => exact mk ‹_› (.quiet _ (.allocStart hq hpr hb))
  case case5 hq p rest hpr => exact mk ‹_› (.quiet _ (.relZero hq hpr))
  case case6 hq p b rest hpr hb => exact mk ‹_› (.quiet _ (.relStart hq hpr))
  case case7 hq => exact mk ‹_› (.quiet _ (.loadPool hq))
  case case8 hq acc' hi => exact mk ‹_› (.quiet _ (.tot hq))
  case case9 hq acc' hi => exact mk ‹_› (.quiet _ (.totEnd hq hi))
  case case10 hq h => exact mk ‹_› (.quiet _ (.refuse hq))
  case case11 hq h h2 => exact mk ‹_› (.quiet _ (.toShared hq h))
  case case12 hq h h2 => exact mk ‹_› (.quiet _ (.toCas hq h))
  case case13 hq => exact mk ‹_› (.quiet _ (.shrLimit hq))
  case case14 hq acc' hi => exact mk ‹_› (.quiet _ (.shrTot hq))
  case case15 hq acc' hi h => exact mk ‹_› (.quiet _ (.shrRefuse hq))
  case case16 hq acc' hi h => exact mk ‹_› (.quiet _ (.shrCas hq))
  case case17 hq => exact mk ‹_› (.allocCas _ _ hq)
  case case18 hq hc => exact mk ‹_› (.quiet _ (.casFail hq))
  case case19 hq => exact mk ‹_› (.quiet _ (.rLoad hq))
  case case20 hq => exact mk ‹_› (.relCas _ _ hq)
  case case21 hq hc => exact mk ‹_› (.quiet _ (.rCasFail hq))

end TurVerif.Budget
