import TurVerif.Model.Cal
/-! Rust's integer operations as the `Cal` model has them (`Int.tdiv`, `as u32`, `as i32`) on the values where
they agree with the mathematical ones. -/
namespace TurVerif.Cal

/-- Rust's truncating `/` on a non-negative dividend, from the two bounds that pin the quotient -/
theorem tdiv_eq_of_bounds {a b : Int} {q : Nat} (h1 : b * q ≤ a) (h2 : a < b * q + b) : a.tdiv b = q := by
  have hb : 0 < b := by omega
  have ha : 0 ≤ a := Int.le_trans (Int.mul_nonneg (Int.le_of_lt hb) (by omega)) h1
  rw [Int.tdiv_eq_ediv_of_nonneg ha]
  apply Int.le_antisymm
  · apply Int.le_of_lt_add_one
    rw [Int.ediv_lt_iff_lt_mul hb, Int.add_mul, Int.one_mul, Int.mul_comm]
    exact h2
  · rw [Int.le_ediv_iff_mul_le hb, Int.mul_comm]
    exact h1

theorem asU32_nat (n : Nat) (h : n < 4294967296) : asU32 (n : Int) = n := by
  unfold asU32
  have : (n : Int) % 4294967296 = n := Int.emod_eq_of_lt (by omega) (by omega)
  rw [this]; simp

theorem asI32_small (n : Nat) (h : n < 2147483648) : asI32 n = (n : Int) := by
  unfold asI32
  have : n % 4294967296 = n := Nat.mod_eq_of_lt (by omega)
  rw [this]; simp [h]

end TurVerif.Cal
