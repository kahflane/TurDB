import TurVerif.Model.SqlIdx
/-!
What it means for a list of entries to be an index of a table (`Order`, `Sorted`, `IsIndex`; used by
C10 and C43), bounds mapped through a key encoding, and the two facts about scanning a list along
which a predicate, once false, stays false.
-/
namespace TurVerif.C10
open TurVerif.Sql TurVerif.SqlDb TurVerif.SqlIdx

variable {κ : Type}

/-- `le` is a total preorder -/
structure Order (le : κ → κ → Bool) : Prop where
  total : ∀ a b, le a b = true ∨ le b a = true
  trans : ∀ a b c, le a b = true → le b c = true → le a c = true

def Sorted (le : κ → κ → Bool) (l : List (Entry κ)) : Prop :=
  l.Pairwise (fun a b => le a.key b.key = true)

/-- `idx` is an index of `tbl`: sorted, and exactly the table's entries -/
def IsIndex (le : κ → κ → Bool) (keyOf : Row → κ) (idx : List (Entry κ)) (tbl : RTable) : Prop :=
  Sorted le idx ∧ idx.Perm (tbl.map (entryOf keyOf))

def mapBound {α β : Type} (f : α → β) : Bound α → Bound β
  | .unb => .unb
  | .incl k => .incl (f k)
  | .excl k => .excl (f k)

/-- along a list on which `p`, once false, stays false, `takeWhile p` keeps what `filter p` keeps -/
theorem takeWhile_eq_filter {α : Type} (p : α → Bool) (l : List α)
    (h : l.Pairwise (fun a b => p b = true → p a = true)) : l.takeWhile p = l.filter p := by
  induction l with
  | nil => rfl
  | cons x xs ih =>
    have hx := List.pairwise_cons.mp h
    cases hp : p x with
    | true => rw [List.takeWhile_cons_of_pos hp, List.filter_cons_of_pos hp, ih hx.2]
    | false =>
      rw [List.takeWhile_cons_of_neg (by simp [hp]), List.filter_cons_of_neg (by simp [hp])]
      exact (List.filter_eq_nil_iff.mpr fun y hy hpy => by simp [hx.1 y hy hpy] at hp).symm

/-- and `dropWhile p` drops what `filter p` keeps -/
theorem dropWhile_eq_filter {α : Type} (p : α → Bool) (l : List α)
    (h : l.Pairwise (fun a b => p b = true → p a = true)) : l.dropWhile p = l.filter (fun a => !p a) := by
  induction l with
  | nil => rfl
  | cons x xs ih =>
    have hx := List.pairwise_cons.mp h
    cases hp : p x with
    | true => rw [List.dropWhile_cons_of_pos hp, List.filter_cons_of_neg (by simp [hp]), ih hx.2]
    | false =>
      rw [List.dropWhile_cons_of_neg (by simp [hp]), List.filter_cons_of_pos (by simp [hp])]
      congr 1
      exact (List.filter_eq_self.mpr fun y hy => by
        cases hpy : p y with
        | false => rfl
        | true => simp [hx.1 y hy hpy] at hp).symm

end TurVerif.C10
