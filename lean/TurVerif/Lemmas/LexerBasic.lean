/- The vocabulary of the C22 lexer proofs.  `Post` is what a scanner owes `next_token`; the `*_elim` lemmas
push any predicate on results through the `if` / `match` shapes the model is written in, so that a proof about a
scanner follows the scanner's code branch by branch; `Stop` says that a position reached from the token start by
`advance()` can end the token; `Good` positions are where `str` slicing is allowed. -/
import TurVerif.Model.Lexer
import TurVerif.Lemmas.Steps
open TurVerif.Lexer

namespace TurVerif.LexerLemmas

/-- byte at `i` (0 past the end; only used below `bs.size`) -/
def B (bs : Bytes) (i : Nat) : Nat := bs.getD i 0

theorem get?_lt {bs : Bytes} {i : Nat} (h : i < bs.size) : bs[i]? = some (B bs i) := by
  unfold B Array.getD
  simp [h]

theorem get?_ge {bs : Bytes} {i : Nat} (h : bs.size ≤ i) : bs[i]? = none := by
  simp [h]

/-- implied by UTF-8 validity of the `&str`: a continuation byte (0x80..0xBF) is never the first byte and
never follows an ASCII byte -/
def WF (bs : Bytes) : Prop :=
  ∀ i, i < bs.size → 128 ≤ B bs i → B bs i < 192 → 0 < i ∧ 128 ≤ B bs (i - 1)

def AllAscii (bs : Bytes) (a b : Nat) : Prop := ∀ i, a ≤ i → i < b → B bs i < 128

theorem AllAscii.append {bs : Bytes} {a b c : Nat} (h1 : AllAscii bs a b) (h2 : AllAscii bs b c) : AllAscii bs a c := by
  intro i hi1 hi2
  by_cases h : i < b
  · exact h1 i hi1 h
  · exact h2 i (Nat.le_of_not_lt h) hi2

theorem AllAscii.single {bs : Bytes} {a : Nat} (h : B bs a < 128) : AllAscii bs a (a + 1) := by
  intro i h1 h2
  rw [Nat.le_antisymm (Nat.le_of_lt_succ h2) h1]; exact h

theorem AllAscii.empty {bs : Bytes} {a : Nat} : AllAscii bs a a :=
  fun _ h1 h2 => absurd h2 (Nat.not_lt_of_le h1)

variable {bs : Bytes}

theorem rd_lt {i : Nat} (h : i < bs.size) : rd bs i = .ok (B bs i) := by
  simp [rd, get?_lt h]

theorem peek_lt {i : Nat} (h : i + 1 < bs.size) : peek bs i = some (B bs (i + 1)) :=
  get?_lt h

theorem peek_ge {i : Nat} (h : bs.size ≤ i + 1) : peek bs i = none :=
  get?_ge h

theorem peek_some {i x : Nat} (h : peek bs i = some x) : i + 1 < bs.size ∧ B bs (i + 1) = x := by
  by_cases h1 : i + 1 < bs.size
  · rw [peek_lt h1] at h; exact ⟨h1, Option.some.inj h⟩
  · rw [peek_ge (Nat.le_of_not_lt h1)] at h; cases h

theorem curSat_eq (bs : Bytes) (i : Nat) (p : Nat → Bool) :
    curSat bs i p = .ok (decide (i < bs.size) && p (B bs i)) := by
  unfold curSat
  by_cases h : i < bs.size <;> simp [h, rd_lt]

theorem curSat_cases (bs : Bytes) (i : Nat) (p : Nat → Bool) :
    (curSat bs i p = .ok true ∧ i < bs.size ∧ p (B bs i) = true) ∨
    (curSat bs i p = .ok false ∧ (i < bs.size → p (B bs i) = false)) := by
  rw [curSat_eq]
  by_cases h : i < bs.size
  · by_cases hp : p (B bs i) = true
    · left; simp [h, hp]
    · right; simp [h, hp]
  · right; simp [h]

theorem adv_lt {i : Nat} (h : i < bs.size) : adv bs i = i + 1 := if_pos h
theorem adv_le {i : Nat} (h : i ≤ bs.size) : adv bs i ≤ bs.size := by
  unfold adv; split
  · assumption
  · exact h
theorem le_adv (bs : Bytes) (i : Nat) : i ≤ adv bs i := by
  unfold adv; split
  · exact Nat.le_succ _
  · exact Nat.le_refl _

section elim
variable {α : Type} {Q : Except Fault α → Prop}

theorem ite_elim {c : Prop} [Decidable c] {a b : Except Fault α} (ha : Q a) (hb : Q b) :
    Q (if c then a else b) :=
  ite_cases (fun _ => ha) (fun _ => hb)

/-- `self.current()` inside the input -/
theorem rd_elim {i : Nat} {f : Nat → Except Fault α} (hi : i < bs.size) (h : Q (f (B bs i))) :
    Q (match rd bs i with | .error e => .error e | .ok c => f c) := by
  rw [rd_lt hi]; exact h

/-- the opening of the two-byte scanners: `if self.is_eof() { .. } else match self.current() { .. }` -/
theorem next_elim {i : Nat} {eof : Except Fault α} {f : Nat → Except Fault α}
    (h0 : Q eof) (h1 : i < bs.size → Q (f (B bs i))) :
    Q (if i ≥ bs.size then eof else match rd bs i with | .error e => .error e | .ok c => f c) :=
  ite_cases (fun _ => h0) (fun h => rd_elim (Nat.lt_of_not_le h) (h1 (Nat.lt_of_not_le h)))

theorem curSat_elim {i : Nat} {p : Nat → Bool} {a b : Except Fault α}
    (ha : i < bs.size → p (B bs i) = true → Q a) (hb : Q b) :
    Q (match curSat bs i p with | .error e => .error e | .ok true => a | .ok false => b) := by
  rcases curSat_cases bs i p with ⟨hc, hlt, hp⟩ | ⟨hc, _⟩ <;> rw [hc]
  · exact ha hlt hp
  · exact hb

end elim

/-- `e` is where `scanWhile bs p` stops when started at `s` -/
structure Run (bs : Bytes) (p : Nat → Bool) (s e : Nat) : Prop where
  le : s ≤ e
  le_size : e ≤ bs.size
  all : ∀ i, s ≤ i → i < e → p (B bs i) = true
  stop : e < bs.size → p (B bs e) = false

theorem scanWhile_spec (bs : Bytes) (p : Nat → Bool) (pos : Nat) (h : pos ≤ bs.size) :
    ∃ e, scanWhile bs p pos = .ok e ∧ Run bs p pos e := by
  fun_induction scanWhile bs p pos with
  | case1 x hx e he => rw [rd_lt hx] at he; cases he
  | case2 x hx c hc hp ih =>
    obtain ⟨e, he, r⟩ := ih hx
    cases (rd_lt hx).symm.trans hc
    refine ⟨e, he, Nat.le_of_succ_le r.le, r.le_size, fun i hi1 hi2 => ?_, r.stop⟩
    by_cases hix : i = x
    · rw [hix]; exact hp
    · exact r.all i (Nat.lt_of_le_of_ne hi1 (Ne.symm hix)) hi2
  | case3 x hx c hc hp =>
    cases (rd_lt hx).symm.trans hc
    exact ⟨x, rfl, Nat.le_refl _, h, fun i h1 h2 => absurd h2 (Nat.not_lt_of_le h1), fun _ => by simpa using hp⟩
  | case4 x hx => exact ⟨x, rfl, Nat.le_refl _, h, fun i h1 h2 => absurd h2 (Nat.not_lt_of_le h1), fun h1 => absurd h1 hx⟩

theorem scanWhile_elim {α : Type} {Q : Except Fault α → Prop} {p : Nat → Bool} {s : Nat}
    {f : Nat → Except Fault α} (hs : s ≤ bs.size) (h : ∀ e, Run bs p s e → Q (f e)) :
    Q (match scanWhile bs p s with | .error e => .error e | .ok e => f e) := by
  obtain ⟨e, he, r⟩ := scanWhile_spec bs p s hs
  rw [he]; exact h e r

theorem Run.lt {p : Nat → Bool} {s e : Nat} (r : Run bs p s e) (hs : s < bs.size)
    (hp : p (B bs s) = true) : s < e := by
  by_cases h : e = s
  · have := r.stop (h ▸ hs); rw [h, hp] at this; cases this
  · exact Nat.lt_of_le_of_ne r.le (Ne.symm h)

def Ascii (p : Nat → Bool) : Prop := ∀ c, p c = true → c < 128

theorem isDigit_ascii : Ascii isDigit := fun c h => by
  simp [isDigit] at h; omega
theorem isIdentChar_ascii : Ascii isIdentChar := fun c h => by
  simp [isIdentChar, isAlpha, isDigit] at h; omega
theorem isIdentStart_ascii : Ascii isIdentStart := fun c h => by
  simp [isIdentStart, isAlpha] at h; omega
theorem isHex_ascii : Ascii isHex := fun c h => by
  simp [isHex, isDigit] at h; omega
theorem isBin_ascii : Ascii isBin := fun c h => by
  simp [isBin] at h; omega
theorem isOct_ascii : Ascii isOct := fun c h => by
  simp [isOct] at h; omega

/-- positions at which the lexer slices: the ends of the input and the two sides of an ASCII byte -/
def Good (bs : Bytes) (i : Nat) : Prop :=
  i = 0 ∨ i = bs.size ∨ (i < bs.size ∧ B bs i < 128) ∨ (0 < i ∧ i ≤ bs.size ∧ B bs (i - 1) < 128)

theorem good_at {i : Nat} (h : i < bs.size) (ha : B bs i < 128) : Good bs i :=
  .inr (.inr (.inl ⟨h, ha⟩))

theorem good_after {i : Nat} (h : i < bs.size) (ha : B bs i < 128) : Good bs (i + 1) :=
  .inr (.inr (.inr ⟨Nat.succ_pos i, h, ha⟩))

theorem good_adv {i : Nat} (h : i < bs.size) (ha : B bs i < 128) : Good bs (adv bs i) :=
  adv_lt h ▸ good_after h ha

theorem boundary_of_good (hwf : WF bs) {i : Nat} (hi : i ≤ bs.size) (g : Good bs i) :
    isBoundary bs i = true := by
  unfold isBoundary
  by_cases h0 : i = 0
  · simp [h0]
  by_cases hs : i = bs.size
  · simp [hs]
  have hlt : i < bs.size := Nat.lt_of_le_of_ne hi hs
  -- a byte that is neither ASCII nor a lead byte is a continuation byte: by `WF` its predecessor is not ASCII
  have : B bs i < 128 ∨ 192 ≤ B bs i := by
    rcases g with g | g | g | g
    · exact absurd g h0
    · exact absurd g hs
    · exact .inl g.2
    · have := hwf i hlt
      omega
  simpa [get?_lt hlt] using Or.inr this

theorem sliceOk_of_good (hwf : WF bs) {a b : Nat} (hab : a ≤ b) (hb : b ≤ bs.size)
    (ga : Good bs a) (gb : Good bs b) : sliceOk bs a b = true := by
  simp [sliceOk, hab, hb, boundary_of_good hwf (Nat.le_trans hab hb) ga, boundary_of_good hwf hb gb]

theorem AllAscii.good {a b : Nat} (h : AllAscii bs a b) (hab : a < b) (hb : b ≤ bs.size) : Good bs b :=
  have hb0 : 0 < b := Nat.lt_of_le_of_lt (Nat.zero_le a) hab
  .inr (.inr (.inr ⟨hb0, hb, h (b - 1) (Nat.le_sub_one_of_lt hab) (Nat.sub_one_lt (Nat.ne_of_gt hb0))⟩))

theorem Run.allAscii {p : Nat → Bool} {s e : Nat} (r : Run bs p s e) (hp : Ascii p) :
    AllAscii bs s e :=
  fun i h1 h2 => hp _ (r.all i h1 h2)

theorem Run.good {p : Nat → Bool} {s e : Nat} (r : Run bs p s e) (hp : Ascii p) (g : Good bs s) :
    Good bs e := by
  by_cases h : e = s
  · rw [h]; exact g
  · exact (r.allAscii hp).good (Nat.lt_of_le_of_ne r.le (Ne.symm h)) r.le_size

/-- `q` can end a token that starts at `pos` -/
def Stop (bs : Bytes) (pos q : Nat) : Prop := pos < q ∧ q ≤ bs.size

theorem Stop.first {pos : Nat} (h : pos < bs.size) : Stop bs pos (adv bs pos) := by
  rw [adv_lt h]; exact ⟨Nat.lt_succ_self _, h⟩

theorem Run.toStop {p : Nat → Bool} {pos s e : Nat} (r : Run bs p s e) (h : pos < s) : Stop bs pos e :=
  ⟨Nat.lt_of_lt_of_le h r.le, r.le_size⟩

theorem Stop.adv {pos q : Nat} (h : Stop bs pos q) : Stop bs pos (adv bs q) :=
  ⟨Nat.lt_of_lt_of_le h.1 (le_adv bs q), adv_le h.2⟩

/-- the token and its payload slice lie inside the input -/
abbrev Inside (bs : Bytes) (t : Tok) : Prop := t.stop ≤ bs.size ∧ t.a ≤ t.b ∧ t.b ≤ bs.size

/-- outcome of a scanner: a token (no fault) that starts at `pos`, is not empty and lies, with its payload slice,
inside the input — or, after a skipped comment, a later position from which `next_token` scans again -/
def PostS (bs : Bytes) (pos : Nat) (r : Except Fault Step) : Prop :=
  (∃ t, r = .ok (.tok t) ∧ t.start = pos ∧ pos < t.stop ∧ Inside bs t) ∨
  (∃ p, r = .ok (.again p) ∧ pos < p ∧ p ≤ bs.size)

/-- the same for a scanner that always returns a token -/
def Post (bs : Bytes) (pos : Nat) (r : Except Fault Tok) : Prop := PostS bs pos (liftTok r)

theorem Post_mk {pos stop : Nat} {k : Kind} (h : Stop bs pos stop) : Post bs pos (mk k pos stop) :=
  .inl ⟨_, rfl, rfl, h.1, h.2, Nat.le_refl _, Nat.zero_le _⟩

theorem Post_mkS (hwf : WF bs) {pos stop a b : Nat} {k : Kind} (h : Stop bs pos stop)
    (hab : a ≤ b) (hb : b ≤ bs.size) (ga : Good bs a) (gb : Good bs b) :
    Post bs pos (mkS bs k pos stop a b) := by
  rw [Post, mkS, if_pos (sliceOk_of_good hwf hab hb ga gb)]
  exact .inl ⟨_, rfl, rfl, h.1, h.2, hab, hb⟩

end TurVerif.LexerLemmas
