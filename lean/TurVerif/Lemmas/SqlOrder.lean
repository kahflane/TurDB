import TurVerif.Model.Sql
/-!
`Val.le` is a total preorder on all values: it orders values of different type rank by rank and
values of one rank by the order of their carrier (`Bool`, `Rat` with INT cast into it, `String`).
`keysLe` is the lexicographic order built from the per-key preorders `Val.dle d`, hence a total
preorder on key tuples of one shape.  Last, `List.mergeSort` facts for an order whose axioms hold
only on a subset `P`.
-/
namespace TurVerif.Sql

theorem Val.le_of_rank_ne {a b : Val} (h : a.rank ≠ b.rank) :
    Val.le a b = decide (a.rank < b.rank) := by
  cases a <;> cases b <;> first | rfl | exact absurd rfl h

theorem Val.rank_le_of_le {a b : Val} (h : Val.le a b = true) : a.rank ≤ b.rank := by
  by_cases hr : a.rank = b.rank
  · exact Nat.le_of_eq hr
  · rw [le_of_rank_ne hr, decide_eq_true_eq] at h; exact Nat.le_of_lt h

theorem Val.le_total (a b : Val) : Val.le a b || Val.le b a := by
  by_cases hr : a.rank = b.rank
  · -- one rank: `hr` leaves the constructor pairs of one carrier
    cases a <;> cases b <;>
      first
      | exact absurd hr (Nat.ne_of_beq_eq_false rfl)
      | rfl
      | simp only [Val.le, Bool.or_eq_true, decide_eq_true_eq]
    · exact Bool.le_total _ _     -- bool, bool
    · exact Int.le_total _ _      -- int, int
    · exact Rat.le_total          -- int, flt
    · exact Rat.le_total          -- flt, int
    · exact Rat.le_total          -- flt, flt
    · exact String.le_total _ _   -- text, text
  · rw [le_of_rank_ne hr, le_of_rank_ne (Ne.symm hr), Bool.or_eq_true, decide_eq_true_eq,
      decide_eq_true_eq]
    exact Nat.lt_or_gt_of_ne hr

theorem Val.le_refl (a : Val) : Val.le a a = true := by
  have := Val.le_total a a; simpa using this

theorem Val.le_null_iff (v : Val) : Val.le v .null = true ↔ v = .null := by
  cases v <;> simp [Val.le]

theorem Val.le_trans (a b c : Val) (h1 : Val.le a b = true) (h2 : Val.le b c = true) :
    Val.le a c = true := by
  have r1 := rank_le_of_le h1
  have r2 := rank_le_of_le h2
  by_cases hac : a.rank = c.rank
  · have hab : a.rank = b.rank := Nat.le_antisymm r1 (hac ▸ r2)
    have hbc : b.rank = c.rank := hab ▸ hac
    cases a <;> cases b <;> (try exact absurd hab (Nat.ne_of_beq_eq_false rfl)) <;>
      cases c <;> (try exact absurd hbc (Nat.ne_of_beq_eq_false rfl)) <;>
      simp only [Val.le, decide_eq_true_eq] at h1 h2 ⊢
    · exact Bool.le_trans h1 h2                                        -- bool, bool, bool
    · exact Int.le_trans h1 h2                                         -- int, int, int
    · exact Rat.le_trans (Rat.intCast_le_intCast.mpr h1) h2            -- int, int, flt
    · exact Rat.intCast_le_intCast.mp (Rat.le_trans h1 h2)             -- int, flt, int
    · exact Rat.le_trans h1 h2                                         -- int, flt, flt
    · exact Rat.le_trans h1 (Rat.intCast_le_intCast.mpr h2)            -- flt, int, int
    · exact Rat.le_trans h1 h2                                         -- flt, int, flt
    · exact Rat.le_trans h1 h2                                         -- flt, flt, int
    · exact Rat.le_trans h1 h2                                         -- flt, flt, flt
    · exact String.le_trans h1 h2                                      -- text, text, text
  · rw [le_of_rank_ne hac, decide_eq_true_eq]
    exact Nat.lt_of_le_of_ne (Nat.le_trans r1 r2) hac

/-- `a` is not after `b` under one ORDER BY key of direction `d` (`true` = DESC) -/
def Val.dle (d : Bool) (a b : Val) : Bool := if d then Val.le b a else Val.le a b

theorem Val.dle_total (d : Bool) (a b : Val) : (Val.dle d a b || Val.dle d b a) = true := by
  cases d
  · exact Val.le_total a b
  · exact Val.le_total b a

theorem Val.dle_trans {d : Bool} {a b c : Val} (h1 : Val.dle d a b = true)
    (h2 : Val.dle d b c = true) : Val.dle d a c = true := by
  cases d
  · exact Val.le_trans a b c h1 h2
  · exact Val.le_trans c b a h2 h1

/-- `keysLe` is the lexicographic order of the per-key preorders `Val.dle d`: the first key on
which the tuples are not equivalent decides -/
theorem keysLe_cons (a b : Val) (d e : Bool) (as bs : List (Val × Bool)) :
    keysLe ((a, d) :: as) ((b, e) :: bs) =
      if Val.dle d a b && Val.dle d b a then keysLe as bs else Val.dle d a b := by
  cases d
  · rfl
  · simp only [keysLe, Val.equiv, Val.dle, if_true, Bool.and_comm]

theorem keysLe_cons_iff (a b : Val) (d e : Bool) (as bs : List (Val × Bool)) :
    keysLe ((a, d) :: as) ((b, e) :: bs) = true ↔
      (Val.dle d a b = true ∧ Val.dle d b a = false) ∨
      (Val.dle d a b = true ∧ Val.dle d b a = true ∧ keysLe as bs = true) := by
  rw [keysLe_cons]
  cases Val.dle d a b <;> cases Val.dle d b a <;> simp

theorem keysLe_single (a b : Val) (d e : Bool) : keysLe [(a, d)] [(b, e)] = Val.dle d a b := by
  rw [keysLe_cons]
  cases Val.dle d a b <;> cases Val.dle d b a <;> rfl

/-- `keysLe` takes the direction of each key from its left argument and holds both ways between
tuples of different length, so it is a preorder only among tuples with the same direction flags -/
def keyShape (k : List (Val × Bool)) : List Bool := k.map (·.2)

theorem keyShape_eq_cons {k : List (Val × Bool)} {d : Bool} {s : List Bool}
    (h : keyShape k = d :: s) : ∃ a as, k = (a, d) :: as ∧ keyShape as = s := by
  cases k with
  | nil => cases h
  | cons p as => obtain ⟨a, e⟩ := p; cases h; exact ⟨a, as, rfl, rfl⟩

theorem keysLe_total_of_shape (s : List Bool) :
    ∀ (a b : List (Val × Bool)), keyShape a = s → keyShape b = s →
      (keysLe a b || keysLe b a) = true := by
  induction s with
  | nil => intro a b ha hb; cases a; rfl; cases ha
  | cons d s ih =>
    intro a b ha hb
    obtain ⟨x, as, rfl, has⟩ := keyShape_eq_cons ha
    obtain ⟨y, bs, rfl, hbs⟩ := keyShape_eq_cons hb
    have t := Val.dle_total d x y
    rw [Bool.or_eq_true, keysLe_cons_iff, keysLe_cons_iff]
    rcases Bool.eq_false_or_eq_true (Val.dle d x y) with h1 | h1 <;>
      rcases Bool.eq_false_or_eq_true (Val.dle d y x) with h2 | h2
    · exact (Bool.or_eq_true _ _ ▸ ih as bs has hbs).imp (fun k => .inr ⟨h1, h2, k⟩)
        (fun k => .inr ⟨h2, h1, k⟩)
    · exact .inl (.inl ⟨h1, h2⟩)
    · exact .inr (.inl ⟨h2, h1⟩)
    · rw [h1, h2] at t; cases t

theorem keysLe_trans_of_shape (s : List Bool) :
    ∀ (a b c : List (Val × Bool)), keyShape a = s → keyShape b = s → keyShape c = s →
      keysLe a b = true → keysLe b c = true → keysLe a c = true := by
  induction s with
  | nil => intro a b c ha hb hc _ _; cases a; rfl; cases ha
  | cons d s ih =>
    intro a b c ha hb hc
    obtain ⟨x, as, rfl, has⟩ := keyShape_eq_cons ha
    obtain ⟨y, bs, rfl, hbs⟩ := keyShape_eq_cons hb
    obtain ⟨z, cs, rfl, hcs⟩ := keyShape_eq_cons hc
    rw [keysLe_cons_iff, keysLe_cons_iff, keysLe_cons_iff]
    -- `u < v` (`u` before `v`, not equivalent) absorbs `≤` on either side
    have lt_le : ∀ {u v w : Val}, Val.dle d u v = true → Val.dle d v u = false →
        Val.dle d v w = true → Val.dle d u w = true ∧ Val.dle d w u = false := fun h1 h2 h3 =>
      ⟨Val.dle_trans h1 h3, Bool.eq_false_iff.mpr fun h => by rw [Val.dle_trans h3 h] at h2; cases h2⟩
    have le_lt : ∀ {u v w : Val}, Val.dle d u v = true → Val.dle d v w = true →
        Val.dle d w v = false → Val.dle d u w = true ∧ Val.dle d w u = false := fun h1 h2 h3 =>
      ⟨Val.dle_trans h1 h2, Bool.eq_false_iff.mpr fun h => by rw [Val.dle_trans h h1] at h3; cases h3⟩
    rintro (⟨h1, h2⟩ | ⟨h1, h2, k1⟩) h
    · exact .inl (lt_le h1 h2 (h.elim (·.1) (·.1)))
    obtain ⟨h3, h4⟩ | ⟨h3, h4, k2⟩ := h
    · exact .inl (le_lt h1 h3 h4)
    · exact .inr ⟨Val.dle_trans h1 h3, Val.dle_trans h4 h2, ih as bs cs has hbs hcs k1 k2⟩

section rel
variable {α : Type} (le : α → α → Bool) (P : α → Prop)

theorem mergeSort_attachWith (l : List α) (hl : ∀ x ∈ l, P x) :
    ((l.attachWith P hl).mergeSort (fun a b => le a.1 b.1)).map Subtype.val = l.mergeSort le := by
  rw [List.map_mergeSort (s := le) (fun a _ b _ => rfl)]
  simp

end rel

/-! ### `mergeSort` by `keysLe` on keyed rows of one shape
Core's `mergeSort` theorems want a total preorder on the whole type; `keysLe` is one only among
tuples of one shape, so they are applied on the subtype. -/
section keyed
variable {β : Type} {s : List Bool} (kr : List (List (Val × Bool) × β))
  (hs : ∀ p ∈ kr, keyShape p.1 = s)
include hs

theorem pairwise_mergeSort_keys :
    (kr.mergeSort fun a b => keysLe a.1 b.1).Pairwise fun a b => keysLe a.1 b.1 = true := by
  rw [← mergeSort_attachWith (fun a b => keysLe a.1 b.1) _ kr hs, List.pairwise_map]
  exact List.pairwise_mergeSort
    (le := fun (a b : {p : List (Val × Bool) × β // keyShape p.1 = s}) => keysLe a.1.1 b.1.1)
    (fun a b c => keysLe_trans_of_shape s _ _ _ a.2 b.2 c.2)
    (fun a b => keysLe_total_of_shape s _ _ a.2 b.2) _

theorem sublist_mergeSort_keys (c : List (List (Val × Bool) × β))
    (hc : c.Pairwise fun a b => keysLe a.1 b.1 = true) (hsub : c.Sublist kr) :
    c.Sublist (kr.mergeSort fun a b => keysLe a.1 b.1) := by
  rw [← mergeSort_attachWith (fun a b => keysLe a.1 b.1) _ kr hs]
  obtain ⟨l', hl', rfl⟩ := List.sublist_map_iff.mp
    ((List.attachWith_map_subtype_val (H := hs)).symm ▸ hsub)
  rw [List.pairwise_map] at hc
  exact (List.sublist_mergeSort
    (le := fun (a b : {p : List (Val × Bool) × β // keyShape p.1 = s}) => keysLe a.1.1 b.1.1)
    (fun a b c => keysLe_trans_of_shape s _ _ _ a.2 b.2 c.2)
    (fun a b => keysLe_total_of_shape s _ _ a.2 b.2) hc hl').map _
end keyed

end TurVerif.Sql
