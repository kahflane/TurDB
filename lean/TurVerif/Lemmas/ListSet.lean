/-!
What replacing one element of a list does to its sum and to the number of elements with a property.
Both are stated additively (no truncated subtraction).
-/
namespace TurVerif

theorem sum_set {l : List Nat} {i old : Nat} (new : Nat) (h : l[i]? = some old) :
    (l.set i new).sum + old = l.sum + new := by
  induction l generalizing i with
  | nil => cases h
  | cons x l ih =>
    cases i with
    | zero =>
      cases h
      rw [List.set_cons_zero, List.sum_cons, List.sum_cons, Nat.add_right_comm, Nat.add_comm new,
        Nat.add_right_comm]
    | succ i =>
      rw [List.set_cons_succ, List.sum_cons, List.sum_cons, Nat.add_assoc, ih h, Nat.add_assoc]

theorem sum_map_set {α : Type} (f : α → Nat) {l : List α} {i : Nat} {old : α} (new : α)
    (h : l[i]? = some old) : ((l.set i new).map f).sum + f old = (l.map f).sum + f new := by
  rw [List.map_set]
  exact sum_set _ (by rw [List.getElem?_map, h]; rfl)

theorem countP_eq_sum {α : Type} (f : α → Bool) (l : List α) :
    l.countP f = (l.map fun a => (f a).toNat).sum := by
  induction l with
  | nil => rfl
  | cons x l ih =>
    rw [List.countP_cons, List.map_cons, List.sum_cons, ih, Nat.add_comm]
    cases f x <;> rfl

theorem countP_set {α : Type} (f : α → Bool) {l : List α} {i : Nat} {old : α} (new : α)
    (h : l[i]? = some old) :
    (l.set i new).countP f + (f old).toNat = l.countP f + (f new).toNat := by
  rw [countP_eq_sum, countP_eq_sum]
  exact sum_map_set _ new h

end TurVerif
