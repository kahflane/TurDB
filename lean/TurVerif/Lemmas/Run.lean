/-!
Schedules of an interleaving model.  The LTS models of the project (`PageLocks`, `Budget`,
`CommitOrder`, `GroupCommit`, `CacheMiss`) have a partial `step : State → Tid → Option State` and run
a schedule by `run s (tid :: rest) = run ((step s tid).getD s) rest` (a disabled step is skipped).
The lemmas here are about any `run` with these two equations, which hold by `rfl` in each model.
-/
namespace TurVerif.Run

variable {σ ι : Type} (step : σ → ι → Option σ) (run : σ → List ι → σ)
  (nil : ∀ s, run s [] = s) (cons : ∀ s i l, run s (i :: l) = run ((step s i).getD s) l)
include nil cons

theorem invariant {P : σ → Prop} (hstep : ∀ {s s' i}, P s → step s i = some s' → P s')
    (l : List ι) {s : σ} (h : P s) : P (run s l) := by
  induction l generalizing s with
  | nil => rw [nil]; exact h
  | cons i l ih =>
    rw [cons]
    cases hs : step s i with
    | none => exact ih h
    | some s' => exact ih (hstep h hs)

theorem append (a b : List ι) (s : σ) : run s (a ++ b) = run (run s a) b := by
  induction a generalizing s with
  | nil => rw [nil]; rfl
  | cons i a ih => rw [List.cons_append, cons, cons, ih]

/-- If a state with `P` that is not done has an enabled step, and every step from such a state keeps
`P` and lowers `work`, then a schedule of at most `work s` steps leads to a done state.  (`n` is
only the fuel of the induction on `work s`.) -/
theorem completes {P : σ → Prop} {work : σ → Nat} {done : σ → Bool}
    (hprog : ∀ {s}, P s → done s = false → ∃ i, (step s i).isSome)
    (hstep : ∀ {s s' i}, P s → step s i = some s' → P s' ∧ work s' < work s)
    (n : Nat) : ∀ {s : σ}, P s → work s < n → ∃ l, done (run s l) = true ∧ l.length ≤ work s := by
  induction n with
  | zero => exact fun _ hn => absurd hn (Nat.not_lt_zero _)
  | succ n ih =>
    intro s h hn
    cases hd : done s with
    | true => exact ⟨[], by rw [nil]; exact hd, Nat.zero_le _⟩
    | false =>
      obtain ⟨i, hi⟩ := hprog h hd
      obtain ⟨s', hs⟩ := Option.isSome_iff_exists.mp hi
      obtain ⟨h', hlt⟩ := hstep h hs
      obtain ⟨l, h1, h2⟩ := ih h' (Nat.lt_of_lt_of_le hlt (Nat.le_of_lt_succ hn))
      refine ⟨i :: l, ?_, Nat.le_trans (Nat.succ_le_succ h2) hlt⟩
      rw [cons, hs]; exact h1

end TurVerif.Run
