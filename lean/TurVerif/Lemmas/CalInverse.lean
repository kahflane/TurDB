import TurVerif.Lemmas.CalSpec
import TurVerif.Lemmas.CalInt
/-! The converters from day numbers back to dates: `days_to_date` and `format_unix_timestamp` (datetime.rs),
`jdn_to_ymd` (cli/table.rs).  Each recovers century, year, month and day of the date counted from 1 March
(`MarchDate`) by its own chain of truncating divisions; the chains are followed one quotient at a time
(`omega` cannot identify a nested quotient in one step).  Facts no later step needs are `clear`ed: `omega` pays for
every hypothesis in the context at each call. -/
namespace TurVerif.Cal

theorem fnDaysToDateRaw_marchDate {y m d C t k E : Nat} (h : MarchDate y m d C t k E) :
    fnDaysToDateRaw (daysFromCivil y m d : Nat) = ((y : Int), (m : Int), (d : Int)) := by
  unfold fnDaysToDateRaw
  dsimp only
  generalize hz : ((daysFromCivil y m d : Nat) : Int) + 306 = z
  have hyr := h.year
  have ht := h.t_lt
  replace hz : z = 36524 * C + (C / 4 : Nat) + 365 * t + (t / 4 : Nat) + (E + 1) := by have := h.rd; omega
  have ha : (100 * z - 25).tdiv 3652425 = C := tdiv_eq_of_bounds (by omega) (by omega)
  have hq : (C : Int).tdiv 4 = (C / 4 : Nat) := (Int.ofNat_tdiv C 4).symm
  rw [ha, hq]
  have hy : (100 * ((C : Int) - (C / 4 : Nat)) + (100 * z - 25)).tdiv 36525 = (100 * C + t : Nat) :=
    tdiv_eq_of_bounds (by omega) (by omega)
  rw [hy, show ((100 * C + t : Nat) : Int).tdiv 4 = ((100 * C + t) / 4 : Nat) from (Int.ofNat_tdiv _ 4).symm,
    show (C : Int) - (C / 4 : Nat) + z - 365 * (100 * C + t : Nat) - ((100 * C + t) / 4 : Nat) = (E + 1 : Nat) by omega]
  clear hz hyr ha hq hy
  have hk := h.month
  have hm : (5 * ((E + 1 : Nat) : Int) + 456).tdiv 153 = (k + 3 : Nat) := tdiv_eq_of_bounds (by omega) (by omega)
  have hd := h.day
  have hg : (153 * ((k + 3 : Nat) : Int) - 457).tdiv 5 = ((153 * k + 2) / 5 : Nat) :=
    tdiv_eq_of_bounds (by omega) (by omega)
  rw [hm, hg, show ((E + 1 : Nat) : Int) - ((153 * k + 2) / 5 : Nat) = d by omega]
  have := h.civil
  split <;> simp only [Prod.mk.injEq, and_true] <;> omega

/-- `days_to_date` inverts the calendar -/
theorem fnDaysToDate_civil (y m d : Nat) (hv : validDate y m d = true) :
    fnDaysToDate (daysFromCivil y m d : Nat) = ((y : Int), m, d) := by
  obtain ⟨C, t, k, E, h⟩ := marchDate y m d hv
  obtain ⟨-, -, hm, -, hd⟩ := validDate_bounds hv
  rw [fnDaysToDate, fnDaysToDateRaw_marchDate h]
  dsimp only
  rw [asU32_nat m (by omega), asU32_nat d (by omega)]

theorem cliJdnToYmdRaw_marchDate {y m d C t k E : Nat} (h : MarchDate y m d C t k E) :
    cliJdnToYmdRaw ((daysFromCivil y m d : Nat) + 1721425) = ((y : Int), (m : Int), (d : Int)) := by
  unfold cliJdnToYmdRaw
  dsimp only
  generalize ha : ((daysFromCivil y m d : Nat) : Int) + 1721425 + 32044 = a
  have hyr := h.year
  have ht := h.t_lt
  -- the JDN formula counts years from −4800: 48 more centuries, 12 more leap centuries
  replace ha : a = 36524 * (C + 48) + ((C / 4 : Nat) + 12) + (365 * t + (t / 4 : Nat) + E) := by
    have := h.rd; omega
  have hb : (4 * a + 3).tdiv 146097 = (C + 48 : Nat) := tdiv_eq_of_bounds (by omega) (by omega)
  have hq : (146097 * ((C + 48 : Nat) : Int)).tdiv 4 = (36524 * (C + 48) + (C / 4 + 12) : Nat) :=
    tdiv_eq_of_bounds (by omega) (by omega)
  rw [hb, hq]
  generalize hc : a - ((36524 * (C + 48) + (C / 4 + 12) : Nat) : Int) = c
  replace hc : c = 365 * t + (t / 4 : Nat) + E := by omega
  clear ha hb hq
  have hd : (4 * c + 3).tdiv 1461 = t := tdiv_eq_of_bounds (by omega) (by omega)
  have hq2 : (1461 * (t : Int)).tdiv 4 = (365 * t + t / 4 : Nat) := tdiv_eq_of_bounds (by omega) (by omega)
  rw [hd, hq2, show c - ((365 * t + t / 4 : Nat) : Int) = E by omega]
  clear hc hyr hd hq2
  have hk := h.month
  have hday := h.day
  have hm : (5 * (E : Int) + 2).tdiv 153 = k := tdiv_eq_of_bounds (by omega) (by omega)
  have hg : (153 * (k : Int) + 2).tdiv 5 = ((153 * k + 2) / 5 : Nat) := tdiv_eq_of_bounds (by omega) (by omega)
  have hk10 : (k : Int).tdiv 10 = (k / 10 : Nat) := (Int.ofNat_tdiv k 10).symm
  rw [hm, hg, hk10, show (E : Int) - ((153 * k + 2) / 5 : Nat) + 1 = d by omega]
  have := h.civil
  simp only [Prod.mk.injEq, and_true]
  omega

/-- `jdn_to_ymd` inverts the calendar (2440588 = JDN of the Unix epoch, 719163 its Rata Die) -/
theorem cliJdnToYmd_civil (y m d : Nat) (hv : validDate y m d = true) :
    cliJdnToYmd (2440588 + (((daysFromCivil y m d : Nat) : Int) - 719163)) = ((y : Int), m, d) := by
  obtain ⟨C, t, k, E, h⟩ := marchDate y m d hv
  obtain ⟨-, -, hm, -, hd⟩ := validDate_bounds hv
  rw [cliJdnToYmd, show (2440588 : Int) + ((daysFromCivil y m d : Nat) - 719163) = (daysFromCivil y m d : Nat) + 1721425
    by omega, cliJdnToYmdRaw_marchDate h]
  dsimp only
  rw [asU32_nat m (by omega), asU32_nat d (by omega)]

/-! ### datetime.rs `format_unix_timestamp` (civil-from-days with the constants 1461 / 146097): correct on
every date except Feb 29 -/

/-- the year of the 400-year era as the code computes it from the day `doe` of the era (`c` = century of the
era), for a day of the year `E` that is not the leap day; with `E = 365` the quotient can come out one too large -/
theorem civil_yoe (c t E doe : Nat) (hc : c < 4) (ht : t < 100) (hE : E ≤ 364)
    (hdoe : doe = 36524 * c + 365 * t + t / 4 + E) :
    (doe - doe / 1461 + doe / 36524 - doe / 146097) / 365 = 100 * c + t := by
  have hB : doe / 36524 = c := by omega
  have hZ : doe / 146097 = 0 := by omega
  -- `doe / 1461` exceeds the number `24 * c + t / 4` of whole 4-year cycles by some `X ≤ 3`, and
  -- `X ≤ c + E < 365 + X` keeps the quotient by 365 at `100 * c + t`
  have hA : doe / 1461 = 24 * c + t / 4 + (1460 * c + 365 * (t % 4) + E) / 1461 := by omega
  rw [hB, hZ, hA]
  clear hB hZ hA
  omega

theorem fnCivil_marchDate {y m d C t k E : Nat} (h : MarchDate y m d C t k E) (hnot : ¬ (m = 2 ∧ d = 29)) :
    fnCivilFromUnixDays (((daysFromCivil y m d : Nat) : Int) - 719163) = some ((y : Int), m, d) := by
  unfold fnCivilFromUnixDays
  dsimp only
  generalize hz : ((daysFromCivil y m d : Nat) : Int) - 719163 + 719468 = z
  have ht := h.t_lt
  have hE := h.not_leapDay hnot
  replace hz : z = 146097 * (C / 4 : Nat) + (36524 * (C % 4) + 365 * t + t / 4 + E : Nat) := by
    have := h.rd; omega
  generalize hdoe : 36524 * (C % 4) + 365 * t + t / 4 + E = doe at hz
  have hera : z.tdiv 146097 = (C / 4 : Nat) := tdiv_eq_of_bounds (by omega) (by omega)
  rw [if_pos (show z ≥ 0 by omega), hera, show z - ((C / 4 : Nat) : Int) * 146097 = (doe : Nat) by omega,
    asU32_nat doe (by omega), civil_yoe (C % 4) t E doe (by omega) ht hE hdoe.symm]
  clear hera hz hE
  subst hdoe
  rw [show 365 * (100 * (C % 4) + t) + (100 * (C % 4) + t) / 4 - (100 * (C % 4) + t) / 100
      = 36524 * (C % 4) + 365 * t + t / 4 by omega, if_neg (Nat.not_lt.2 (Nat.le_add_right _ _)), Nat.add_sub_cancel_left, h.month,
    show E - (153 * k + 2) / 5 + 1 = d by have := h.day; have := h.one_le; omega]
  have := h.civil
  split <;> split <;> simp only [Option.some.injEq, Prod.mk.injEq, and_true] <;> omega

end TurVerif.Cal
