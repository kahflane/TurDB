import TurVerif.Model.PageLocks
import TurVerif.Lemmas.ListSet
/-!
C36 (page locks): the inductive invariant of the repaired (`fixed = true`) page-lock LTS, the
classification of program counters it is stated with, and how its per-entry part is carried across
an update of one thread (`entOk_set`).

Invariant `Inv s` (for every entry id `e`, page `p`):
  `fx`             : `s.fixed = true`
  `mp` (`MapOk`)   : map keys pairwise distinct, map values pairwise distinct, every map value is a
                     valid entry id (`< s.entries.length`)
  `sk` (`StakeOk`) : every thread with a stake in entry `e` for page `p` (pc ∈ acquire / waiting /
                     held / release on `(p, e)`) has `lookup s.map p = some e`
                     (hence an entry that is not in the map has no stake holders)
  `en` (`EntOk`)   : `rc`: `entries[e].refCount` = number of threads with a stake in `e`
                     `wr`: number of threads in `held _ e true` = if `entries[e].writer` then 1 else 0
                     `rd`: number of threads in `held _ e false` = `entries[e].readers`
                     `ex`: `entries[e].writer = true → entries[e].readers = 0`
  `zc` (`ZcOk`)    : a mapped entry `(p, e)` whose refCount is 0 has a thread at `cleanup p e`
                     (the thread that saw `release()` return true and has not yet locked the map)
-/
namespace TurVerif.PageLocks

/-- the thread holds a counted reference (a "stake") on entry `e` -/
def stakeIn (e : Nat) : Pc → Bool
  | .acquire _ e' _ => e' == e
  | .waiting _ e' _ => e' == e
  | .held _ e' _ => e' == e
  | .release _ e' => e' == e
  | _ => false

def stakeOf : Pc → Option (Nat × Nat)
  | .acquire p e _ => some (p, e)
  | .waiting p e _ => some (p, e)
  | .held p e _ => some (p, e)
  | .release p e => some (p, e)
  | _ => none

def heldW (e : Nat) : Pc → Bool
  | .held _ e' true => e' == e
  | _ => false

def heldR (e : Nat) : Pc → Bool
  | .held _ e' false => e' == e
  | _ => false

def atCleanup (p e : Nat) : Pc → Bool
  | .cleanup p' e' => p' == p && e' == e
  | _ => false

def stakeCount (s : State) (e : Nat) : Nat := s.threads.countP (fun t => stakeIn e t.pc)
def writerCount (s : State) (e : Nat) : Nat := s.threads.countP (fun t => heldW e t.pc)
def readerCount (s : State) (e : Nat) : Nat := s.threads.countP (fun t => heldR e t.pc)

theorem mem_of_getElem? {α : Type} {l : List α} {i : Nat} {a : α} (h : l[i]? = some a) : a ∈ l :=
  List.mem_of_getElem? h

theorem lookup_nil (p : Nat) : lookup [] p = none := rfl

theorem lookup_cons (q e : Nat) (m : List (Nat × Nat)) (p : Nat) :
    lookup ((q, e) :: m) p = if q = p then some e else lookup m p := by
  unfold lookup
  rw [List.find?_cons]
  by_cases h : q = p
  · rw [if_pos h, show ((q, e).1 == p) = true from beq_iff_eq.mpr h]; rfl
  · rw [if_neg h, show ((q, e).1 == p) = false from beq_eq_false_iff_ne.mpr h]

theorem mem_of_lookup {m : List (Nat × Nat)} {p e : Nat} (h : lookup m p = some e) :
    (p, e) ∈ m := by
  induction m with
  | nil => cases h
  | cons x m ih =>
    obtain ⟨q, e'⟩ := x
    rw [lookup_cons] at h
    by_cases hq : q = p
    · rw [if_pos hq] at h
      simp only [Option.some.injEq] at h
      subst hq; subst h
      exact List.mem_cons_self
    · rw [if_neg hq] at h
      exact List.mem_cons_of_mem _ (ih h)

def Distinct (m : List (Nat × Nat)) : Prop := m.Pairwise (fun a b => a.1 ≠ b.1 ∧ a.2 ≠ b.2)

theorem lookup_of_mem {m : List (Nat × Nat)} {p e : Nat} (hd : Distinct m) (h : (p, e) ∈ m) :
    lookup m p = some e := by
  induction m with
  | nil => simp at h
  | cons x m ih =>
    obtain ⟨q, e'⟩ := x
    rw [lookup_cons]
    have hd' := List.pairwise_cons.mp hd
    rcases List.mem_cons.mp h with h | h
    · simp only [Prod.mk.injEq] at h
      rw [if_pos h.1.symm, h.2]
    · have := (hd'.1 _ h).1
      simp only at this
      rw [if_neg this]
      exact ih hd'.2 h

theorem key_eq_of_mem {m : List (Nat × Nat)} {p p' e : Nat} (hd : Distinct m)
    (h : (p, e) ∈ m) (h' : (p', e) ∈ m) : p = p' := by
  induction m with
  | nil => simp at h
  | cons x m ih =>
    have hd' := List.pairwise_cons.mp hd
    rcases List.mem_cons.mp h with h | h <;> rcases List.mem_cons.mp h' with h' | h'
    · rw [← h'] at h
      simp only [Prod.mk.injEq] at h
      exact h.1
    · have := (hd'.1 _ h').2
      rw [← h] at this
      exact absurd rfl this
    · have := (hd'.1 _ h).2
      rw [← h'] at this
      exact absurd rfl this
    · exact ih hd'.2 h h'

theorem lookup_filter_ne (m : List (Nat × Nat)) (p q : Nat) (h : q ≠ p) :
    lookup (m.filter (fun x => x.1 != p)) q = lookup m q := by
  induction m with
  | nil => rfl
  | cons x m ih =>
    obtain ⟨k, e⟩ := x
    by_cases hk : k = p
    · subst hk
      rw [List.filter_cons_of_neg (by simp), lookup_cons, if_neg (Ne.symm h), ih]
    · rw [List.filter_cons_of_pos (by simp [hk]), lookup_cons, lookup_cons, ih]

theorem lookup_filter_self (m : List (Nat × Nat)) (p : Nat) :
    lookup (m.filter (fun x => x.1 != p)) p = none := by
  induction m with
  | nil => rfl
  | cons x m ih =>
    obtain ⟨k, e⟩ := x
    by_cases hk : k = p
    · subst hk
      rw [List.filter_cons_of_neg (by simp), ih]
    · rw [List.filter_cons_of_pos (by simp [hk]), lookup_cons, if_neg hk, ih]

@[simp] theorem stakeIn_idle (e : Nat) : stakeIn e .idle = false := rfl
@[simp] theorem stakeIn_goc (e : Nat) (p : Nat) (w : Bool) : stakeIn e (.getOrCreate p w) = false := rfl
@[simp] theorem stakeIn_acquire (e : Nat) (p e' : Nat) (w : Bool) : stakeIn e (.acquire p e' w) = (e' == e) := rfl
@[simp] theorem stakeIn_waiting (e : Nat) (p e' : Nat) (w : Bool) : stakeIn e (.waiting p e' w) = (e' == e) := rfl
@[simp] theorem stakeIn_held (e : Nat) (p e' : Nat) (w : Bool) : stakeIn e (.held p e' w) = (e' == e) := rfl
@[simp] theorem stakeIn_release (e : Nat) (p e' : Nat) : stakeIn e (.release p e') = (e' == e) := rfl
@[simp] theorem stakeIn_cleanup (e : Nat) (p e' : Nat) : stakeIn e (.cleanup p e') = false := rfl

@[simp] theorem stakeOf_idle  : stakeOf .idle = none := rfl
@[simp] theorem stakeOf_goc  (p : Nat) (w : Bool) : stakeOf (.getOrCreate p w) = none := rfl
@[simp] theorem stakeOf_acquire  (p e' : Nat) (w : Bool) : stakeOf (.acquire p e' w) = some (p, e') := rfl
@[simp] theorem stakeOf_waiting  (p e' : Nat) (w : Bool) : stakeOf (.waiting p e' w) = some (p, e') := rfl
@[simp] theorem stakeOf_held  (p e' : Nat) (w : Bool) : stakeOf (.held p e' w) = some (p, e') := rfl
@[simp] theorem stakeOf_release  (p e' : Nat) : stakeOf (.release p e') = some (p, e') := rfl
@[simp] theorem stakeOf_cleanup  (p e' : Nat) : stakeOf (.cleanup p e') = none := rfl

@[simp] theorem heldW_idle (e : Nat) : heldW e .idle = false := rfl
@[simp] theorem heldW_goc (e : Nat) (p : Nat) (w : Bool) : heldW e (.getOrCreate p w) = false := rfl
@[simp] theorem heldW_acquire (e : Nat) (p e' : Nat) (w : Bool) : heldW e (.acquire p e' w) = false := rfl
@[simp] theorem heldW_waiting (e : Nat) (p e' : Nat) (w : Bool) : heldW e (.waiting p e' w) = false := rfl
@[simp] theorem heldW_held (e : Nat) (p e' : Nat) (w : Bool) : heldW e (.held p e' w) = (w && e' == e) := by cases w <;> simp [heldW]
@[simp] theorem heldW_release (e : Nat) (p e' : Nat) : heldW e (.release p e') = false := rfl
@[simp] theorem heldW_cleanup (e : Nat) (p e' : Nat) : heldW e (.cleanup p e') = false := rfl

@[simp] theorem heldR_idle (e : Nat) : heldR e .idle = false := rfl
@[simp] theorem heldR_goc (e : Nat) (p : Nat) (w : Bool) : heldR e (.getOrCreate p w) = false := rfl
@[simp] theorem heldR_acquire (e : Nat) (p e' : Nat) (w : Bool) : heldR e (.acquire p e' w) = false := rfl
@[simp] theorem heldR_waiting (e : Nat) (p e' : Nat) (w : Bool) : heldR e (.waiting p e' w) = false := rfl
@[simp] theorem heldR_held (e : Nat) (p e' : Nat) (w : Bool) : heldR e (.held p e' w) = (!w && e' == e) := by cases w <;> simp [heldR]
@[simp] theorem heldR_release (e : Nat) (p e' : Nat) : heldR e (.release p e') = false := rfl
@[simp] theorem heldR_cleanup (e : Nat) (p e' : Nat) : heldR e (.cleanup p e') = false := rfl

@[simp] theorem atCleanup_idle (q e : Nat) : atCleanup q e .idle = false := rfl
@[simp] theorem atCleanup_goc (q e : Nat) (p : Nat) (w : Bool) : atCleanup q e (.getOrCreate p w) = false := rfl
@[simp] theorem atCleanup_acquire (q e : Nat) (p e' : Nat) (w : Bool) : atCleanup q e (.acquire p e' w) = false := rfl
@[simp] theorem atCleanup_waiting (q e : Nat) (p e' : Nat) (w : Bool) : atCleanup q e (.waiting p e' w) = false := rfl
@[simp] theorem atCleanup_held (q e : Nat) (p e' : Nat) (w : Bool) : atCleanup q e (.held p e' w) = false := rfl
@[simp] theorem atCleanup_release (q e : Nat) (p e' : Nat) : atCleanup q e (.release p e') = false := rfl
@[simp] theorem atCleanup_cleanup (q e : Nat) (p e' : Nat) : atCleanup q e (.cleanup p e') = (p == q && e' == e) := rfl

def MapOk (m : List (Nat × Nat)) (n : Nat) : Prop := Distinct m ∧ ∀ x ∈ m, x.2 < n

def StakeOk (m : List (Nat × Nat)) (ths : List Thread) : Prop :=
  ∀ t ∈ ths, ∀ p e, stakeOf t.pc = some (p, e) → lookup m p = some e

structure EntOk (ths : List Thread) (e : Nat) (en : Entry) : Prop where
  rc : en.refCount = ths.countP (fun t => stakeIn e t.pc)
  wr : ths.countP (fun t => heldW e t.pc) = if en.writer = true then 1 else 0
  rd : ths.countP (fun t => heldR e t.pc) = en.readers
  ex : en.writer = true → en.readers = 0

def EntsOk (ents : List Entry) (ths : List Thread) : Prop :=
  ∀ e en, ents[e]? = some en → EntOk ths e en

def ZcOk (m : List (Nat × Nat)) (ents : List Entry) (ths : List Thread) : Prop :=
  ∀ p e en, (p, e) ∈ m → ents[e]? = some en → en.refCount = 0 →
    0 < ths.countP (fun t => atCleanup p e t.pc)

structure Inv (s : State) : Prop where
  fx : s.fixed = true
  mp : MapOk s.map s.entries.length
  sk : StakeOk s.map s.threads
  en : EntsOk s.entries s.threads
  zc : ZcOk s.map s.entries s.threads

theorem stakeIn_of_stakeOf {pc : Pc} {p e : Nat} (h : stakeOf pc = some (p, e)) :
    stakeIn e pc = true := by
  cases pc <;> cases h <;> exact beq_self_eq_true e

theorem stakeOf_of_stakeIn {pc : Pc} {e : Nat} (h : stakeIn e pc = true) :
    ∃ p, stakeOf pc = some (p, e) := by
  cases pc <;> first | cases h | exact ⟨_, congrArg (fun x => some (_, x)) (beq_iff_eq.mp h)⟩

/-- a lock holder has a stake -/
theorem heldW_false_of_no_stake {e : Nat} {pc : Pc} (h : stakeIn e pc = false) :
    heldW e pc = false := by
  cases pc <;> first | rfl | rw [heldW_held, ← stakeIn_held, h, Bool.and_false]

theorem heldR_false_of_no_stake {e : Nat} {pc : Pc} (h : stakeIn e pc = false) :
    heldR e pc = false := by
  cases pc <;> first | rfl | rw [heldR_held, ← stakeIn_held, h, Bool.and_false]

theorem heldW_false_of_ne {e : Nat} {pc : Pc} (h : ∀ p, pc ≠ .held p e true) :
    heldW e pc = false := by
  cases pc with
  | held p e' w => cases w <;> first | rfl | exact beq_eq_false_iff_ne.mpr fun he => h p (he ▸ rfl)
  | _ => rfl

theorem heldR_false_of_ne {e : Nat} {pc : Pc} (h : ∀ p, pc ≠ .held p e false) :
    heldR e pc = false := by
  cases pc with
  | held p e' w => cases w <;> first | rfl | exact beq_eq_false_iff_ne.mpr fun he => h p (he ▸ rfl)
  | _ => rfl

theorem stakeOk_set {m : List (Nat × Nat)} {ths : List Thread} (tid : Nat) (t' : Thread)
    (h : StakeOk m ths) (h' : ∀ p e, stakeOf t'.pc = some (p, e) → lookup m p = some e) :
    StakeOk m (ths.set tid t') := by
  intro t ht p e hs
  rcases List.mem_or_eq_of_mem_set ht with ht | ht
  · exact h t ht p e hs
  · subst ht; exact h' p e hs

theorem entry_of_stake {s : State} (h : Inv s) {tid : Nat} {t : Thread} {p e : Nat}
    (ht : s.threads[tid]? = some t) (hs : stakeOf t.pc = some (p, e)) :
    ∃ en, s.entries[e]? = some en :=
  have h2 := h.mp.2 _ (mem_of_lookup (h.sk t (List.mem_of_getElem? ht) p e hs))
  ⟨s.entries[e], List.getElem?_eq_getElem h2⟩

theorem getElem?_modify_some {ents : List Entry} {e e0 : Nat} {f : Entry → Entry} {en' : Entry}
    (h : (ents.modify e f)[e0]? = some en') :
    ∃ en, ents[e0]? = some en ∧ en' = if e = e0 then f en else en := by
  rw [List.getElem?_modify] at h
  cases hq : ents[e0]? with
  | none => rw [hq] at h; cases h
  | some en => rw [hq] at h; cases h; exact ⟨en, rfl, rfl⟩

theorem countP_pos_of_getElem? {ths : List Thread} {tid : Nat} {t : Thread} (f : Thread → Bool)
    (ht : ths[tid]? = some t) (hf : f t = true) : 0 < ths.countP f :=
  List.countP_pos_iff.mpr ⟨t, List.mem_of_getElem? ht, hf⟩

theorem countP_set_le {ths : List Thread} {tid : Nat} {t : Thread} (f : Thread → Bool) (t' : Thread)
    (ht : ths[tid]? = some t) (hf : f t = false) : ths.countP f ≤ (ths.set tid t').countP f := by
  have := countP_set f t' ht
  rw [hf] at this
  exact Nat.le.intro this.symm

theorem toNat_beq_self (e : Nat) : (e == e).toNat = 1 := by rw [beq_self_eq_true]; rfl

theorem ite_toNat (b : Bool) : (if b = true then 1 else 0) = b.toNat := by cases b <;> rfl

/-- transfer of the per-entry invariant along one thread update: only arithmetic on the entry's
fields and the classification of the old and new pc remains (each field and the count it equals
must move by the same amount) -/
theorem entOk_set {ths : List Thread} {tid : Nat} {t : Thread} (t' : Thread) {e : Nat}
    {en en' : Entry} (ht : ths[tid]? = some t) (old : EntOk ths e en)
    (h1 : en'.refCount + (stakeIn e t.pc).toNat = en.refCount + (stakeIn e t'.pc).toNat)
    (h2 : en'.writer.toNat + (heldW e t.pc).toNat = en.writer.toNat + (heldW e t'.pc).toNat)
    (h3 : en'.readers + (heldR e t.pc).toNat = en.readers + (heldR e t'.pc).toNat)
    (h4 : en'.writer = true → en'.readers = 0) : EntOk (ths.set tid t') e en' := by
  refine ⟨?_, ?_, ?_, h4⟩
  · apply Nat.add_right_cancel (m := (stakeIn e t.pc).toNat)
    rw [h1, old.rc]
    exact (countP_set (fun t => stakeIn e t.pc) t' ht).symm
  · apply Nat.add_right_cancel (m := (heldW e t.pc).toNat)
    rw [ite_toNat, h2, ← ite_toNat en.writer, ← old.wr]
    exact countP_set (fun t => heldW e t.pc) t' ht
  · apply Nat.add_right_cancel (m := (heldR e t.pc).toNat)
    rw [h3, ← old.rd]
    exact countP_set (fun t => heldR e t.pc) t' ht

theorem entOk_set_other {ths : List Thread} {tid : Nat} {t : Thread} (t' : Thread) {e : Nat}
    {en : Entry} (ht : ths[tid]? = some t) (old : EntOk ths e en)
    (h : stakeIn e t.pc = false) (h' : stakeIn e t'.pc = false) : EntOk (ths.set tid t') e en :=
  entOk_set t' ht old (by rw [h, h'])
    (by rw [heldW_false_of_no_stake h, heldW_false_of_no_stake h'])
    (by rw [heldR_false_of_no_stake h, heldR_false_of_no_stake h']) old.ex

theorem EntOk.rc_pos {ths : List Thread} {tid : Nat} {t : Thread} {e : Nat} {en : Entry}
    (old : EntOk ths e en) (ht : ths[tid]? = some t) (hs : stakeIn e t.pc = true) :
    1 ≤ en.refCount := by
  rw [old.rc]; exact countP_pos_of_getElem? _ ht hs

theorem EntOk.writer_of_heldW {ths : List Thread} {tid : Nat} {t : Thread} {e : Nat} {en : Entry}
    (old : EntOk ths e en) (ht : ths[tid]? = some t) (hs : heldW e t.pc = true) :
    en.writer = true := by
  have := countP_pos_of_getElem? (fun t => heldW e t.pc) ht hs
  rw [old.wr] at this
  cases hw : en.writer
  · rw [hw] at this; cases this
  · rfl

theorem EntOk.readers_pos {ths : List Thread} {tid : Nat} {t : Thread} {e : Nat} {en : Entry}
    (old : EntOk ths e en) (ht : ths[tid]? = some t) (hs : heldR e t.pc = true) :
    1 ≤ en.readers := by
  rw [← old.rd]; exact countP_pos_of_getElem? _ ht hs

end TurVerif.PageLocks
