/-!
Facts about lists that core does not have: lookup in an append, `flatMap` up to permutation (sum
of two loops, loop swap, regrouping by classes, double counting), congruence under a membership
hypothesis, a three-way partition by filters.
-/
namespace TurVerif
variable {α β γ : Type}

theorem getElem?_append_left_of_some {l r : List α} {i : Nat} {a : α} (h : l[i]? = some a) :
    (l ++ r)[i]? = some a := by
  obtain ⟨hi, _⟩ := List.getElem?_eq_some_iff.mp h
  rw [List.getElem?_append_left hi, h]

theorem getElem?_append_right_add {l r : List α} {n i : Nat} (hn : l.length = n) :
    (l ++ r)[n + i]? = r[i]? := by
  subst hn
  rw [List.getElem?_append_right (Nat.le_add_right _ _), Nat.add_sub_cancel_left]

theorem flatMap_congr_mem {xs : List α} {f g : α → List β} (h : ∀ x ∈ xs, f x = g x) :
    xs.flatMap f = xs.flatMap g := by
  rw [List.flatMap_def, List.flatMap_def, List.map_congr_left h]

theorem any_congr_mem {xs : List α} {p q : α → Bool} (h : ∀ x ∈ xs, p x = q x) :
    xs.any p = xs.any q := by
  induction xs with
  | nil => rfl
  | cons a t ih =>
    rw [List.forall_mem_cons] at h
    rw [List.any_cons, List.any_cons, h.1, ih h.2]

theorem flatMap_nil_fn (xs : List α) : (xs.flatMap fun _ => ([] : List β)) = [] :=
  List.flatMap_eq_nil_iff.mpr fun _ _ => rfl

theorem flatMap_append_perm (xs : List α) (f g : α → List β) :
    (xs.flatMap fun x => f x ++ g x).Perm (xs.flatMap f ++ xs.flatMap g) := by
  induction xs with
  | nil => exact List.Perm.refl _
  | cons a t ih =>
    simp only [List.flatMap_cons, List.append_assoc]
    refine List.Perm.append_left _ ?_
    exact ((List.Perm.append_left _ ih).trans (List.perm_append_comm_assoc _ _ _))

/-- loop swap -/
theorem flatMap_swap (L : List α) (R : List β) (f : α → β → List γ) :
    (L.flatMap fun l => R.flatMap (f l)).Perm (R.flatMap fun r => L.flatMap (fun l => f l r)) := by
  induction L with
  | nil => simp only [List.flatMap_nil, flatMap_nil_fn]; exact List.Perm.refl _
  | cons a t ih =>
    simp only [List.flatMap_cons]
    exact ((List.Perm.append_left _ ih).trans (flatMap_append_perm R (f a) _).symm)

/-- a loop whose body is `g x`, or `d x` where `g x` is empty: the `d x` can be emitted in a second
loop. `e` is the emptiness test in whatever form the caller's term has it (`he`). -/
theorem flatMap_default_perm (xs : List α) (g d : α → List β) (e : α → Bool)
    (he : ∀ x, e x = (g x).isEmpty) :
    (xs.flatMap fun x => if e x then d x else g x).Perm
      (xs.flatMap g ++ (xs.filter e).flatMap d) := by
  induction xs with
  | nil => exact List.Perm.refl _
  | cons a t ih =>
    simp only [List.flatMap_cons, List.filter_cons]
    cases h : e a
    · simp only [Bool.false_eq_true, if_false, List.append_assoc]
      exact List.Perm.append_left _ ih
    · rw [List.isEmpty_iff.mp ((he a).symm.trans h)]
      simp only [if_true, List.nil_append, List.flatMap_cons]
      exact ((List.Perm.append_left _ ih).trans (List.perm_append_comm_assoc _ _ _))

theorem isEmpty_filter (xs : List α) (p : α → Bool) : (xs.filter p).isEmpty = !xs.any p := by
  induction xs with
  | nil => rfl
  | cons a t ih =>
    simp only [List.filter_cons, List.any_cons]
    cases h : p a <;> simp [ih]

theorem filter_flatMap_ite (xs : List α) (p : α → Bool) (P : α → List β) :
    (xs.filter p).flatMap P = xs.flatMap fun x => if p x then P x else [] := by
  induction xs with
  | nil => rfl
  | cons a t ih =>
    simp only [List.filter_cons, List.flatMap_cons, ← ih]
    cases p a <;> rfl

theorem range_flatMap_ite (n a : Nat) (P : List β) :
    ((List.range n).flatMap fun q => if a == q then P else []) = if a < n then P else [] := by
  induction n with
  | zero => rfl
  | succ n ih =>
    rw [List.range_succ, List.flatMap_append, ih, List.flatMap_singleton]
    rcases Nat.lt_trichotomy a n with h | rfl | h
    · rw [if_pos h, if_neg (by simpa using Nat.ne_of_lt h), if_pos (Nat.lt_succ_of_lt h),
        List.append_nil]
    · rw [if_neg (Nat.lt_irrefl _), if_pos (beq_self_eq_true _), if_pos (Nat.lt_succ_self _),
        List.nil_append]
    · rw [if_neg (Nat.lt_asymm h), if_neg (by simpa using Nat.ne_of_gt h),
        if_neg (Nat.not_lt.mpr h), List.append_nil]

/-- regrouping: splitting a list into the `n` classes of `f` and concatenating the per-class
results is a permutation of the result over the whole list -/
theorem regroup_perm (n : Nat) (f : α → Nat) (P : α → List β) (xs : List α)
    (hf : ∀ x ∈ xs, f x < n) :
    ((List.range n).flatMap fun q => (xs.filter fun x => f x == q).flatMap P).Perm
      (xs.flatMap P) := by
  simp only [filter_flatMap_ite]
  refine (flatMap_swap _ xs fun q x => if f x == q then P x else []).trans ?_
  rw [flatMap_congr_mem fun x hx => (range_flatMap_ite n (f x) (P x)).trans (if_pos (hf x hx))]

/-- the number of pairs `(x, y)` with `q x y`, counted row by row, as the length of a double loop -/
theorem sum_length_filter (xs : List α) (ys : List β) (q : α → β → Bool) :
    (xs.map fun x => (ys.filter (q x)).length).sum =
      (xs.flatMap fun x => ys.flatMap fun y => if q x y then [()] else []).length := by
  have e : ∀ x, (ys.flatMap fun y => if q x y then [()] else []).length = (ys.filter (q x)).length :=
    fun x => by rw [← filter_flatMap_ite, ← List.map_eq_flatMap, List.length_map]
  simp only [List.length_flatMap, e]

/-- double counting: counting the pairs with `q x y` row by row or column by column gives the same -/
theorem sum_length_filter_swap (xs : List α) (ys : List β) (q : α → β → Bool) :
    (xs.map fun x => (ys.filter (q x)).length).sum =
      (ys.map fun y => (xs.filter fun x => q x y).length).sum := by
  rw [sum_length_filter, sum_length_filter ys xs fun y x => q x y, (flatMap_swap xs ys _).length_eq]

/-- three filters of which exactly one keeps each element partition the list -/
theorem filter3_perm (f g h : α → Bool) (l : List α)
    (hex : ∀ x ∈ l, (f x = true ∧ g x = false ∧ h x = false) ∨
      (f x = false ∧ g x = true ∧ h x = false) ∨ (f x = false ∧ g x = false ∧ h x = true)) :
    (l.filter f ++ l.filter g ++ l.filter h).Perm l := by
  induction l with
  | nil => exact .nil
  | cons x xs ih =>
    have ih := ih fun y hy => hex y (List.mem_cons_of_mem _ hy)
    simp only [List.filter_cons]
    rcases hex x List.mem_cons_self with ⟨hf, hg, hh⟩ | ⟨hf, hg, hh⟩ | ⟨hf, hg, hh⟩ <;>
      simp only [hf, hg, hh, if_true, Bool.false_eq_true, if_false]
    · exact ih.cons x
    · rw [List.append_assoc, List.cons_append]
      exact List.perm_middle.trans ((List.append_assoc .. ▸ ih).cons x)
    · exact List.perm_middle.trans (ih.cons x)

end TurVerif
