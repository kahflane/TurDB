import TurVerif.Model.DecCore
import TurVerif.Lemmas.Steps
namespace TurVerif.Dec

@[simp] theorem panics_ok {α : Type} (a : α) : (Res.ok a).panics = false := rfl
@[simp] theorem panics_err {α : Type} (e : String) : (Res.err e : Res α).panics = false := rfl
@[simp] theorem panics_oob {α : Type} : (Res.oob : Res α).panics = true := rfl
@[simp] theorem panics_arith {α : Type} : (Res.arith : Res α).panics = true := rfl
@[simp] theorem panics_expect {α : Type} : (Res.expect : Res α).panics = true := rfl
@[simp] theorem panics_fuel {α : Type} : (Res.fuel : Res α).panics = true := rfl

@[simp] theorem bind_ok {α β : Type} (a : α) (f : α → Res β) : (Res.ok a).bind f = f a := rfl
@[simp] theorem bind_err {α β : Type} (e : String) (f : α → Res β) : (Res.err e).bind f = .err e := rfl
@[simp] theorem bind_oob {α β : Type} (f : α → Res β) : (Res.oob).bind f = .oob := rfl

theorem bind_safe {α β : Type} {r : Res α} {f : α → Res β} (h1 : r.panics = false)
    (h2 : ∀ a, r = .ok a → (f a).panics = false) : (r.bind f).panics = false := by
  cases r with
  | ok a => exact h2 a rfl
  | err e => rfl
  | _ => cases h1

theorem ensure_safe {c : Bool} {e : String} : (ensure c e).panics = false := by
  cases c <;> rfl

theorem ensure_ok {c : Bool} {e : String} {u : Unit} (h : ensure c e = .ok u) : c = true := by
  cases c
  · cases h
  · rfl

/-- past `ensure!(c, ..)` the condition holds -/
theorem ensure_bind {β : Type} {c : Bool} {e : String} {f : Unit → Res β}
    (h : c = true → (f ()).panics = false) : ((ensure c e).bind f).panics = false := by
  cases c
  · rfl
  · exact h rfl

theorem ite_safe {β : Type} {c : Prop} [Decidable c] {x y : Res β} (hx : c → x.panics = false)
    (hy : ¬ c → y.panics = false) : (if c then x else y).panics = false :=
  ite_cases (Q := fun r : Res β => r.panics = false) hx hy

theorem rd_lt {b : Buf} {i : Nat} (h : i < b.len) : rd b i = .ok (b.get i) := if_pos h

theorem slice_le {b : Buf} {s e : Nat} (h1 : s ≤ e) (h2 : e ≤ b.len) :
    slice b s e = .ok (bytes b s (e - s)) := if_pos ⟨h1, h2⟩

theorem slice_safe {b : Buf} {s e : Nat} (h1 : s ≤ e) (h2 : e ≤ b.len) :
    (slice b s e).panics = false := by rw [slice_le h1 h2]; rfl

theorem slice_bind {β : Type} {b : Buf} {s e : Nat} {f : List Nat → Res β} (h1 : s ≤ e) (h2 : e ≤ b.len)
    (h : ∀ l, (f l).panics = false) : ((slice b s e).bind f).panics = false := by
  rw [slice_le h1 h2]; exact h _

/-- byte `k` of a field of `w` bytes that lies inside the buffer -/
theorem rd_at {b : Buf} {i w : Nat} (h : i + w ≤ b.len) (k : Nat) (hk : k < w := by decide) :
    rd b (i + k) = .ok (b.get (i + k)) :=
  rd_lt (Nat.lt_of_lt_of_le (Nat.add_lt_add_left hk i) h)

theorem rd16_le {b : Buf} {i : Nat} (h : i + 2 ≤ b.len) :
    rd16 b i = .ok (b.get i + 256 * b.get (i + 1)) := by
  rw [rd16, show rd b i = _ from rd_at h 0, rd_at h 1]; rfl

theorem rd32_le {b : Buf} {i : Nat} (h : i + 4 ≤ b.len) : ∃ v, rd32 b i = .ok v := by
  rw [rd32, show rd b i = _ from rd_at h 0, rd_at h 1, rd_at h 2, rd_at h 3]; exact ⟨_, rfl⟩

theorem rd64_le {b : Buf} {i : Nat} (h : i + 8 ≤ b.len) : ∃ v, rd64 b i = .ok v := by
  obtain ⟨lo, hlo⟩ := rd32_le (b := b) (i := i) (Nat.le_trans (Nat.add_le_add_left (by decide) i) h)
  obtain ⟨hi, hhi⟩ := rd32_le (b := b) (i := i + 4) h
  rw [rd64, hlo, hhi]; exact ⟨_, rfl⟩

end TurVerif.Dec
