import TurVerif.Model.GroupCommit
import TurVerif.Lemmas.Run
/-!
C37 (group commit).  The state is looked at through a view: the functions `pcAt`, `comp`, `err`,
`fw` and the three queue fields.  `Next` is the transition table of one step on that view, `Eff`
adds what the step does to the other threads and to the flags, and `step_eff` says that every step
of the model has this effect.  The invariants (Lemmas/GroupCommitInv.lean) speak of the view only.
-/
namespace TurVerif.GroupCommit

def pcAt (s : State) (i : Nat) : Option Pc := (s.threads[i]?).map (·.pc)
def comp (s : State) (i : Nat) : Bool := s.completed.getD i false
def err (s : State) (i : Nat) : Bool := s.errored.getD i false

def fw (s : State) (i : Nat) : Bool := ((s.threads[i]?).map (·.failWrite)).getD false

def Len (s : State) : Prop :=
  s.completed.length = s.threads.length ∧ s.errored.length = s.threads.length

/-- where a thread blocked on the condition variable goes when it is notified -/
def wokenPc (s : State) (i : Nat) : Pc :=
  if comp s i then (if err s i then .done false else .take) else .waitLock

/-- what `notify_all` does to a thread standing at `pc` -/
def wakePc (s : State) (i : Nat) (pc : Pc) : Pc := if pc = .condWait then wokenPc s i else pc

theorem afterCompleted_eq (s : State) (i : Nat) :
    afterCompleted s i = if err s i then .done false else .take := rfl

theorem getD_zipIdx_map_or (l : List Bool) (f : Nat → Bool) (i : Nat) :
    (l.zipIdx.map (fun (c, j) => c || f j)).getD i false
      = (l.getD i false || (decide (i < l.length) && f i)) := by
  simp only [List.getD_eq_getElem?_getD, List.getElem?_map, List.getElem?_zipIdx]
  by_cases h : i < l.length <;> simp [h]

theorem pcAt_lt {s : State} {i : Nat} {pc : Pc} (h : pcAt s i = some pc) : i < s.threads.length := by
  rcases Nat.lt_or_ge i s.threads.length with hl | hl
  · exact hl
  · rw [pcAt, List.getElem?_eq_none hl] at h; cases h

theorem pcAt_setThread (s : State) (tid : Nat) (t t' : Thread) (h : s.threads[tid]? = some t)
    (i : Nat) :
    pcAt (setThread s tid t') i = if i = tid then some t'.pc else pcAt s i := by
  have hlt := (List.getElem?_eq_some_iff.mp h).1
  by_cases hi : tid = i
  · subst hi; simp [pcAt, setThread, hlt]
  · simp [pcAt, setThread, hi, Ne.symm hi]

theorem pcAt_wakeAll (s : State) (i : Nat) :
    pcAt (wakeAll s) i = (pcAt s i).map (wakePc s i) := by
  unfold pcAt wakeAll wakePc wokenPc comp
  simp only [List.getElem?_map, List.getElem?_zipIdx, Option.map_map]
  cases s.threads[i]? with
  | none => rfl
  | some t =>
    simp only [Option.map_some, Function.comp, Nat.zero_add]
    by_cases h : t.pc = .condWait <;> simp [h, afterCompleted_eq]

theorem fw_setThread (s : State) (tid : Nat) (t t' : Thread) (h : s.threads[tid]? = some t)
    (hf : t'.failWrite = t.failWrite) (i : Nat) : fw (setThread s tid t') i = fw s i := by
  obtain ⟨hlt, ht⟩ := List.getElem?_eq_some_iff.mp h
  by_cases hi : tid = i
  · subst hi; simp [fw, setThread, hlt, hf, ht]
  · simp [fw, setThread, hi]

theorem fw_wakeAll (s : State) (i : Nat) : fw (wakeAll s) i = fw s i := by
  unfold fw wakeAll
  simp only [List.getElem?_map, List.getElem?_zipIdx, Option.map_map]
  cases s.threads[i]? with
  | none => rfl
  | some t =>
    simp only [Option.map_some, Function.comp, Option.getD_some]
    split <;> rfl

/-- The step of thread `tid` on its own program counter and on the queue: from `p` to `p'`, after
which `pending`, `flush_in_progress` and the log are the last three arguments.
`p` and `p'` are indices, so that `cases` on a `Next` whose source or target is known keeps only the
rows that fit; for the same reason leaving the wait loop on completion (`afterCompleted`) has one
row per outcome. -/
inductive Next (s : State) (tid : Nat) : Pc → Pc → List Nat → Bool → List Nat → Prop
  | start : Next s tid .start .waitLock (s.pending ++ [tid]) s.flushInProgress s.log
  | releasedOk : comp s tid = true → err s tid = false →
      Next s tid .waitLock .take s.pending s.flushInProgress s.log
  | releasedErr : comp s tid = true → err s tid = true →
      Next s tid .waitLock (.done false) s.pending s.flushInProgress s.log
  | lead : comp s tid = false → s.flushInProgress = false → s.pending ≠ [] →
      Next s tid .waitLock .take s.pending true s.log
  | park : comp s tid = false → (s.flushInProgress = true ∨ s.pending = []) →
      Next s tid .waitLock .condWait s.pending s.flushInProgress s.log
  | takeNone : s.pending = [] → Next s tid .take (.done true) s.pending s.flushInProgress s.log
  | takeSome : s.pending ≠ [] → Next s tid .take (.write s.pending) [] true s.log
  | writeFail b : fw s tid = true →
      Next s tid (.write b) (.mark b false) s.pending s.flushInProgress s.log
  | writeOk b : fw s tid = false →
      Next s tid (.write b) (.mark b true) s.pending s.flushInProgress (s.log ++ b)
  | mark b ok : Next s tid (.mark b ok) (.clear b ok) s.pending s.flushInProgress s.log
  | clear b ok : Next s tid (.clear b ok) (.done ok) s.pending false s.log

/-- the step from `p` ends with `notify_all` -/
def notifies : Pc → Bool
  | .clear .. => true
  | _ => false

structure Eff (s : State) (tid : Nat) (s' : State) (p p' : Pc) (q : List Nat) (f : Bool)
    (l : List Nat) : Prop where
  cur : pcAt s tid = some p
  next : Next s tid p p' q f l
  pending : s'.pending = q
  flush : s'.flushInProgress = f
  log : s'.log = l
  pcs : ∀ i, pcAt s' i =
    if i = tid then some p' else if notifies p then (pcAt s i).map (wakePc s i) else pcAt s i
  comp : ∀ i, comp s' i = true ↔
    comp s i = true ∨ (i < s.completed.length ∧ ∃ b ok, p = .mark b ok ∧ i ∈ b)
  err : ∀ i, err s' i = true ↔
    err s i = true ∨ (i < s.errored.length ∧ ∃ b, p = .mark b false ∧ i ∈ b)
  fw : ∀ i, fw s' i = fw s i
  len : Len s → Len s'

/-- a step that neither marks a batch nor notifies: only `tid`'s thread and the queue change -/
theorem eff_setThread {s : State} {tid : Nat} {t : Thread} {p p' : Pc} {q l : List Nat} {f : Bool}
    (ht : s.threads[tid]? = some t) (hp : t.pc = p) (hn : Next s tid p p' q f l)
    (hm : ∀ b ok, p ≠ .mark b ok) (hw : notifies p = false) :
    Eff s tid (setThread { s with pending := q, flushInProgress := f, log := l } tid
      { t with pc := p' }) p p' q f l where
  cur := by simp [pcAt, ht, hp]
  next := hn
  pending := rfl
  flush := rfl
  log := rfl
  pcs i := by rw [hw]; exact pcAt_setThread _ tid t _ ht i
  comp i := by simp [hm, GroupCommit.comp, setThread]
  err i := by simp [hm, GroupCommit.err, setThread]
  fw i := fw_setThread { s with pending := q, flushInProgress := f, log := l } tid t
    { t with pc := p' } ht rfl i
  len h := by simpa [Len, setThread] using h

theorem step_eff {s s' : State} {tid : Nat} (hs : step s tid = some s') :
    ∃ p p' q f l, Eff s tid s' p p' q f l := by
  revert hs
  -- one case per branch of `step`, in the order of its text; `cases hs` closes the disabled ones
  -- (no such thread, `condWait`, `done`)
  fun_cases step s tid <;> intro hs <;> cases hs
  case case2 t ht hq => exact ⟨_, _, _, _, _, eff_setThread ht hq .start nofun rfl⟩
  case case3 t ht hq hc =>
    rw [afterCompleted_eq]
    cases he : err s tid
    · exact ⟨_, _, _, _, _, eff_setThread ht hq (.releasedOk hc he) nofun rfl⟩
    · exact ⟨_, _, _, _, _, eff_setThread ht hq (.releasedErr hc he) nofun rfl⟩
  case case4 t ht hq hc hg =>
    exact ⟨_, _, _, _, _,
      eff_setThread ht hq (.lead (Bool.eq_false_iff.mpr hc) hg.1 hg.2) nofun rfl⟩
  case case5 t ht hq hc hg =>
    refine ⟨_, _, _, _, _, eff_setThread ht hq (.park (Bool.eq_false_iff.mpr hc) ?_) nofun rfl⟩
    cases hf : s.flushInProgress with
    | false => exact .inr (Decidable.not_not.mp fun hne => hg ⟨hf, hne⟩)
    | true => exact .inl rfl
  case case7 t ht hq he => exact ⟨_, _, _, _, _, eff_setThread ht hq (.takeNone he) nofun rfl⟩
  case case8 t ht hq hne => exact ⟨_, _, _, _, _, eff_setThread ht hq (.takeSome hne) nofun rfl⟩
  case case9 t ht b hq hfl =>
    exact ⟨_, _, _, _, _, eff_setThread ht hq (.writeFail b (by simp [fw, ht, hfl])) nofun rfl⟩
  case case10 t ht b hq hfl =>
    exact ⟨_, _, _, _, _,
      eff_setThread ht hq (.writeOk b (by simpa [fw, ht] using hfl)) nofun rfl⟩
  case case11 t ht b ok hq =>
    refine ⟨_, _, _, _, _, by simp [pcAt, ht, hq], .mark b ok, rfl, rfl, rfl,
      fun i => pcAt_setThread _ tid t _ ht i, fun i => ?_, fun i => ?_,
      fun i => fw_setThread { s with
        completed := s.completed.zipIdx.map (fun (c, i) => c || b.contains i),
        errored := s.errored.zipIdx.map (fun (e, i) => e || (!ok && b.contains i)) } tid t
        { t with pc := .clear b ok } ht rfl i,
      fun h => by simpa [Len, setThread] using h⟩
    · have := getD_zipIdx_map_or s.completed (fun j => b.contains j) i
      simp only [comp, setThread]
      rw [this]; simp
    · have := getD_zipIdx_map_or s.errored (fun j => !ok && b.contains j) i
      simp only [err, setThread]
      rw [this]; cases ok <;> simp
  case case12 t ht b ok hq =>
    refine ⟨_, _, _, _, _, by simp [pcAt, ht, hq], .clear b ok, rfl, rfl, rfl, fun i => ?_,
      fun i => by simp; rfl, fun i => by simp; rfl, fun i => ?_,
      fun h => by simpa [Len, setThread, wakeAll] using h⟩
    · rw [pcAt_wakeAll,
        pcAt_setThread { s with flushInProgress := false } tid t { t with pc := .done ok } ht i]
      by_cases hi : i = tid
      · simp [hi, wakePc]
      · simp only [hi, if_false]; rfl
    · rw [fw_wakeAll]
      exact fw_setThread { s with flushInProgress := false } tid t { t with pc := .done ok } ht rfl i

theorem run_invariant {P : State → Prop}
    (hstep : ∀ {s s' tid p p' q f l}, Eff s tid s' p p' q f l → P s → P s') (sched : List Nat)
    {s : State} (h : P s) : P (run s sched) :=
  Run.invariant step run (fun _ => rfl) (fun _ _ _ => rfl)
    (fun h hs => have ⟨_, _, _, _, _, e⟩ := step_eff hs; hstep e h) sched h

/-- the only program counters `notify_all` moves a thread to -/
def wakeTarget : Pc → Bool
  | .waitLock | .take | .done false => true
  | _ => false

theorem wakeTarget_wokenPc (s : State) (i : Nat) : wakeTarget (wokenPc s i) = true := by
  cases hc : comp s i <;> cases he : err s i <;> simp [wokenPc, hc, he, wakeTarget]

section
variable {s s' : State} {tid : Nat} {p p' : Pc} {q l : List Nat} {f : Bool}
  (e : Eff s tid s' p p' q f l)
include e

theorem Eff.self : pcAt s' tid = some p' := by rw [e.pcs, if_pos rfl]

/-- A thread found at `r` after the step is the one that moved, or was at `r` before (and if it is
still waiting nobody has notified), or was waiting and has been notified. -/
theorem Eff.origin_or_woken {i : Nat} {r : Pc} (h : pcAt s' i = some r) :
    (i = tid ∧ p' = r) ∨ (i ≠ tid ∧
      ((pcAt s i = some r ∧ (r = .condWait → notifies p = false)) ∨
        (pcAt s i = some .condWait ∧ r = wokenPc s i))) := by
  rw [e.pcs] at h
  split at h
  · exact .inl ⟨‹_›, Option.some.inj h⟩
  · refine .inr ⟨‹_›, ?_⟩
    split at h
    · obtain ⟨r0, h0, rfl⟩ := Option.map_eq_some_iff.mp h
      unfold wakePc
      split
      · next hc => exact .inr ⟨hc ▸ h0, rfl⟩
      · next hc => exact .inl ⟨h0, fun h' => (hc h').elim⟩
    · next hw => exact .inl ⟨h, fun _ => Bool.eq_false_iff.mpr hw⟩

/-- the same for an `r` that `notify_all` sends nobody to -/
theorem Eff.origin {i : Nat} {r : Pc} (h : pcAt s' i = some r) (hr : wakeTarget r = false) :
    (i = tid ∧ p' = r) ∨
      (i ≠ tid ∧ pcAt s i = some r ∧ (r = .condWait → notifies p = false)) := by
  rcases e.origin_or_woken h with h | ⟨hi, h | ⟨-, h⟩⟩
  · exact .inl h
  · exact .inr ⟨hi, h⟩
  · rw [h, wakeTarget_wokenPc] at hr; cases hr

theorem Eff.keep {i : Nat} {r : Pc} (h : pcAt s i = some r) (hi : i ≠ tid)
    (hr : r = .condWait → notifies p = false) : pcAt s' i = some r := by
  rw [e.pcs, if_neg hi, h]
  cases hw : notifies p with
  | false => rfl
  | true =>
    have : r ≠ .condWait := fun hc => by rw [hr hc] at hw; cases hw
    simp [wakePc, this]

/-- a thread other than the mover stays where it is, unless it was waiting and has been notified -/
theorem Eff.other {i : Nat} {r : Pc} (h : pcAt s i = some r) (hi : i ≠ tid) :
    pcAt s' i = some r ∨ (r = .condWait ∧ pcAt s' i = some (wokenPc s i)) := by
  rw [e.pcs, if_neg hi, h]
  cases notifies p with
  | false => exact .inl rfl
  | true =>
    by_cases hr : r = .condWait
    · subst hr; exact .inr ⟨rfl, rfl⟩
    · exact .inl (by simp [wakePc, hr])

theorem Eff.fwd {i : Nat} {r : Pc} (h : pcAt s i = some r) (hr : r ≠ .condWait) :
    pcAt s' i = some r ∨ (i = tid ∧ p = r) := by
  by_cases hi : i = tid
  · subst hi; exact .inr ⟨rfl, Option.some.inj (e.cur.symm.trans h)⟩
  · exact .inl (e.keep h hi fun hc => (hr hc).elim)

theorem Eff.pcAt_eq_none (i : Nat) : pcAt s' i = none ↔ pcAt s i = none := by
  rw [e.pcs]
  by_cases hi : i = tid
  · simp [hi, e.cur]
  · cases notifies p <;> simp [hi]

theorem Eff.pending_cases : s'.pending = s.pending ∨ s'.pending = [] ∨
    (p = .start ∧ s'.pending = s.pending ++ [tid]) := by
  rw [e.pending]
  cases e.next <;> first | exact .inl rfl | exact .inr (.inl rfl) | exact .inr (.inr ⟨rfl, rfl⟩)

theorem Eff.log_cases : s'.log = s.log ∨ ∃ b, p = .write b ∧ s'.log = s.log ++ b := by
  rw [e.log]
  cases e.next <;> first | exact .inl rfl | exact .inr ⟨_, rfl, rfl⟩

theorem Eff.mem_pending {a : Nat} (h : a ∈ s'.pending) : a ∈ s.pending ∨ (a = tid ∧ p = .start) := by
  rcases e.pending_cases with h' | h' | ⟨hp, h'⟩ <;> rw [h'] at h
  · exact .inl h
  · cases h
  · simpa [hp] using h

theorem Eff.mem_log {a : Nat} (h : a ∈ s'.log) : a ∈ s.log ∨ ∃ b, p = .write b ∧ a ∈ b := by
  rcases e.log_cases with h' | ⟨b, hp, h'⟩ <;> rw [h'] at h
  · exact .inl h
  · exact (List.mem_append.mp h).imp_right fun h => ⟨b, hp, h⟩

theorem Eff.log_keep {a : Nat} (h : a ∈ s.log) : a ∈ s'.log := by
  rcases e.log_cases with h' | ⟨b, -, h'⟩ <;> rw [h']
  · exact h
  · exact List.mem_append_left b h

theorem Eff.flush_keep (h : s.flushInProgress = true) (hp : notifies p = false) :
    s'.flushInProgress = true := by
  rw [e.flush]; cases e.next <;> first | exact h | rfl | cases hp

end

theorem run_append (s : State) (a b : List Nat) : run s (a ++ b) = run (run s a) b :=
  Run.append step run (fun _ => rfl) (fun _ _ _ => rfl) a b s

theorem fw_init (fails : List Bool) (i : Nat) : fw (init fails) i = fails.getD i false := by
  unfold fw init
  simp only [List.getD_eq_getElem?_getD, List.getElem?_map]
  cases fails[i]? <;> rfl

theorem fw_run (s : State) (sched : List Nat) (i : Nat) : fw (run s sched) i = fw s i :=
  run_invariant (P := fun t => fw t i = fw s i) (fun e h => (e.fw i).trans h) sched rfl

theorem pcAt_none_run (s : State) (sched : List Nat) (a : Nat) :
    pcAt (run s sched) a = none ↔ pcAt s a = none :=
  run_invariant (P := fun t => pcAt t a = none ↔ pcAt s a = none)
    (fun e h => (e.pcAt_eq_none a).trans h) sched Iff.rfl

theorem pcAt_init_none (fails : List Bool) (a : Nat) :
    pcAt (init fails) a = none ↔ fails.length ≤ a := by
  unfold pcAt init
  simp

end TurVerif.GroupCommit
