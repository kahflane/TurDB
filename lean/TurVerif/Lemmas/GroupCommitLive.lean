import TurVerif.Lemmas.GroupCommitInv
import TurVerif.Lemmas.ListSet
/-!
C37, progress side: no lost wake-up (a committer blocked on the condition variable always has a
thread that will still run `notify_all`), no deadlock, a work measure that every enabled step
decreases (a `clear` step pays for all the threads it wakes up), hence every reachable state can be
driven to quiescence.
-/
namespace TurVerif.GroupCommit

/-- the thread will still reach `notify_all`: it owns a batch, or it is about to call
`take_pending` -/
def willNotify : Pc → Bool
  | .take => true
  | .write _ => true
  | .mark _ _ => true
  | .clear _ _ => true
  | _ => false

theorem isOwner_willNotify {pc : Pc} (h : isOwner pc = true) : willNotify pc = true := by
  cases pc <;> first | rfl | cases h

theorem blocked_cases {s : State} (i : Inv s) {a : Nat} (ha : pcAt s a = some .condWait) :
    (a ∈ s.pending ∧ s.flushInProgress = true) ∨
    (∃ j b, pcAt s j = some (.write b) ∧ a ∈ b) ∨
    (∃ j b ok, pcAt s j = some (.mark b ok) ∧ a ∈ b) ∨
    (∃ j b ok, pcAt s j = some (.clear b ok) ∧ a ∈ b) := by
  cases hc : comp s a with
  | true => exact .inr (.inr (.inr (i.w2 a ha hc)))
  | false =>
    rcases i.z a (.inr ha) hc with h | h | h
    · exact .inl ⟨h, i.w1 a ha h⟩
    · exact .inr (.inl h)
    · exact .inr (.inr (.inl h))

theorem no_lost_wakeup_of_inv {s : State} (i : Inv s) {a : Nat} (ha : pcAt s a = some .condWait) :
    ∃ j pc, j ≠ a ∧ pcAt s j = some pc ∧ willNotify pc = true := by
  have key : ∃ j pc, pcAt s j = some pc ∧ willNotify pc = true := by
    rcases blocked_cases i ha with ⟨hp, hf⟩ | ⟨j, b, hj, _⟩ | ⟨j, b, ok, hj, _⟩ | ⟨j, b, ok, hj, _⟩
    · rcases i.f hf with ⟨j, pc, hj, ho⟩ | ⟨_, j, hj⟩
      · exact ⟨j, pc, hj, isOwner_willNotify ho⟩
      · exact ⟨j, _, hj, rfl⟩
    · exact ⟨j, _, hj, rfl⟩
    · exact ⟨j, _, hj, rfl⟩
    · exact ⟨j, _, hj, rfl⟩
  obtain ⟨j, pc, hj, hw⟩ := key
  exact ⟨j, pc, (by rintro rfl; cases ha.symm.trans hj; cases hw), hj, hw⟩

theorem enabled {s : State} {tid : Nat} {pc : Pc} (h : pcAt s tid = some pc)
    (h1 : pc ≠ .condWait) (h2 : ∀ ok, pc ≠ .done ok) : (step s tid).isSome = true := by
  unfold pcAt at h
  -- one case per branch of `step`, in the order of its text: all enabled but three
  fun_cases step s tid
  case case1 ht => rw [ht] at h; cases h
  case case6 t ht hq => rw [ht] at h; cases h; exact (h1 hq).elim
  case case13 t ht ok hq => rw [ht] at h; cases h; exact (h2 ok hq).elim
  all_goals rfl

theorem willNotify_enabled {s : State} {tid : Nat} {pc : Pc} (h : pcAt s tid = some pc)
    (hw : willNotify pc = true) : (step s tid).isSome = true := by
  apply enabled h
  · intro e; subst e; cases hw
  · intro ok e; subst e; cases hw

theorem quiescent_iff (s : State) :
    quiescent s = true ↔ ∀ i pc, pcAt s i = some pc → ∃ ok, pc = .done ok := by
  unfold quiescent pcAt
  rw [List.all_eq_true]
  constructor
  · intro h i pc hi
    cases ht : s.threads[i]? with
    | none => rw [ht] at hi; cases hi
    | some t =>
      rw [ht] at hi
      simp only [Option.map_some, Option.some.injEq] at hi
      have := h t (List.mem_of_getElem? ht)
      rw [hi] at this
      cases pc <;> first | exact ⟨_, rfl⟩ | cases this
  · intro h t ht
    obtain ⟨j, hj, hjt⟩ := List.getElem_of_mem ht
    have hj' : s.threads[j]? = some t := by rw [List.getElem?_eq_getElem hj, hjt]
    obtain ⟨ok, hok⟩ := h j t.pc (by rw [hj']; rfl)
    rw [hok]

theorem absurd_of_quiescent {s : State} (hq : quiescent s = true) {i : Nat} {pc : Pc}
    (h : pcAt s i = some pc) (hpc : ∀ ok, pc ≠ .done ok) : False :=
  have ⟨ok, e⟩ := (quiescent_iff s).mp hq i pc h
  hpc ok e

theorem settled_of_inv {s : State} (i : Inv s) (hq : quiescent s = true) :
    s.flushInProgress = false ∧ s.pending = [] := by
  have hp : s.pending = [] := List.eq_nil_iff_forall_not_mem.mpr fun a ha => by
    rcases i.g a ha with h | h | h <;> exact absurd_of_quiescent hq h nofun
  refine ⟨Bool.eq_false_iff.mpr fun hf => ?_, hp⟩
  rcases i.f hf with ⟨j, pc, hj, ho⟩ | ⟨hne, _⟩
  · exact absurd_of_quiescent hq hj (by rintro ok rfl; cases ho)
  · exact hne hp

theorem logged_or_failed_of_inv {s : State} (i : Inv s) (hq : quiescent s = true) {a : Nat} {r : Pc}
    (ha : pcAt s a = some r) : a ∈ s.log ∨ err s a = true := by
  obtain ⟨ok, rfl⟩ := (quiescent_iff s).mp hq a r ha
  rcases i.life a _ ha nofun with h | ⟨j, b, hj, _⟩ | ⟨j, b, hj, _⟩ | h | h
  · rw [(settled_of_inv i hq).2] at h; cases h
  · exact (absurd_of_quiescent hq hj nofun).elim
  · exact (absurd_of_quiescent hq hj nofun).elim
  · exact .inl h
  · exact .inr h

theorem mem_log_iff_of_inv {s : State} (i : Inv s) (hq : quiescent s = true)
    (hnf : ∀ j, fw s j = false) (a : Nat) : a ∈ s.log ↔ pcAt s a ≠ none := by
  refine ⟨i.v.2.1 a, fun ha => ?_⟩
  cases hr : pcAt s a with
  | none => exact (ha hr).elim
  | some r =>
    rcases logged_or_failed_of_inv i hq hr with h | h
    · exact h
    · obtain ⟨j, hj⟩ := i.er a h
      rw [hnf j] at hj
      cases hj

theorem progress_of_inv {s : State} (i : Inv s) (hq : quiescent s = false) :
    ∃ tid, (step s tid).isSome = true := by
  have : ¬ (∀ i pc, pcAt s i = some pc → ∃ ok, pc = .done ok) := fun h => by
    rw [(quiescent_iff s).mpr h] at hq
    cases hq
  obtain ⟨a, this⟩ := Classical.not_forall.mp this
  obtain ⟨pc, this⟩ := Classical.not_forall.mp this
  obtain ⟨ha, hnd⟩ := Classical.not_imp.mp this
  by_cases hcw : pc = .condWait
  · subst hcw
    obtain ⟨j, pcj, _, hj, hw⟩ := no_lost_wakeup_of_inv i ha
    exact ⟨j, willNotify_enabled hj hw⟩
  · exact ⟨a, enabled ha hcw fun ok e => hnd ⟨ok, e⟩⟩

/-- remaining work of one thread among `n`: a `clear` step is worth `n + 1` because it may send up
to `n` parked threads back to the head of the wait loop -/
def pcRank (n : Nat) : Pc → Nat
  | .done _ => 0
  | .clear .. => n + 1
  | .mark .. => n + 2
  | .write _ => n + 3
  | .take => n + 4
  | .condWait => n + 5
  | .waitLock => n + 6
  | .start => n + 7

def workLeft (s : State) : Nat := (s.threads.map (fun t => pcRank s.threads.length t.pc)).sum

theorem sum_map_zipIdx_le {α : Type} (f : α → Nat) (g : α × Nat → α)
    (hg : ∀ x, f (g x) ≤ f x.1 + 1) (l : List α) (k : Nat) :
    (((l.zipIdx k).map g).map f).sum ≤ (l.map f).sum + l.length := by
  induction l generalizing k with
  | nil => simp
  | cons x l ih =>
    simp only [List.zipIdx_cons, List.map_cons, List.sum_cons, List.length_cons]
    have h1 := hg (x, k)
    have h2 := ih (k + 1)
    simp only at h1
    omega

theorem pcs_getElem? (s : State) (i : Nat) : (s.threads.map (·.pc))[i]? = pcAt s i := by
  simp [pcAt]

theorem getElem?_wake (s : State) (L : List Pc) (i : Nat) :
    (L.zipIdx.map fun x => wakePc s x.2 x.1)[i]? = (L[i]?).map (wakePc s i) := by
  simp only [List.getElem?_map, List.getElem?_zipIdx, Option.map_map, Nat.zero_add]
  rfl

/-- `notify_all` raises the rank of a thread by at most one -/
theorem wakePc_rank (s : State) (n : Nat) (x : Pc × Nat) :
    pcRank n (wakePc s x.2 x.1) ≤ pcRank n x.1 + 1 := by
  unfold wakePc
  split
  · rename_i h
    rw [h]
    cases hc : comp s x.2 <;> cases he : err s x.2 <;> simp [wokenPc, hc, he, pcRank]
  · omega

/-- the moving thread pays for its step, and a notifying one for all `n` threads as well -/
theorem Next.rank {s : State} {tid : Nat} {p p' : Pc} {q l : List Nat} {f : Bool}
    (hn : Next s tid p p' q f l) (n : Nat) :
    pcRank n p' + (if notifies p then n else 0) < pcRank n p := by
  cases hn <;> simp [pcRank, notifies] <;> omega

theorem step_decreases_work {s s' : State} {tid : Nat} (hs : step s tid = some s') :
    workLeft s' < workLeft s := by
  have ⟨p, p', q, f, l, e⟩ := step_eff hs
  -- if the threads stand at `L` with `p` at `tid` before the step (after the wake-up, if the step
  -- notifies), they stand at `L` with `p'` at `tid` after it
  have key : ∀ L : List Pc, L.length = s.threads.length → L[tid]? = some p →
      (∀ i, i ≠ tid → pcAt s' i = L[i]?) →
      workLeft s' + pcRank s.threads.length p =
        (L.map (pcRank s.threads.length)).sum + pcRank s.threads.length p' := by
    intro L hlen htid hoth
    have : s'.threads.map (·.pc) = L.set tid p' := by
      apply List.ext_getElem?
      intro i
      rw [pcs_getElem?, List.getElem?_set]
      by_cases hi : tid = i
      · subst hi
        rw [e.self]
        simp [hlen, pcAt_lt e.cur]
      · rw [if_neg hi, hoth i (Ne.symm hi)]
    have hn : s'.threads.length = s.threads.length := by
      simpa [hlen] using congrArg List.length this
    rw [← sum_map_set (pcRank s.threads.length) (new := p') htid, ← this, workLeft, hn,
      List.map_map]
    rfl
  have hr := e.next.rank s.threads.length
  have hcur := e.cur
  have hw0 : workLeft s = ((s.threads.map (·.pc)).map (pcRank s.threads.length)).sum := by
    rw [List.map_map]; rfl
  cases hw : notifies p with
  | false =>
    have := key (s.threads.map (·.pc)) (by simp) (by rw [pcs_getElem?, hcur])
      (fun i hi => by rw [pcs_getElem?, e.pcs, if_neg hi, hw]; rfl)
    omega
  | true =>
    have hp : p ≠ .condWait := by rintro rfl; cases hw
    have := key ((s.threads.map (·.pc)).zipIdx.map fun x => wakePc s x.2 x.1) (by simp)
      (by rw [getElem?_wake, pcs_getElem?, hcur]; simp [wakePc, hp])
      (fun i hi => by rw [e.pcs, if_neg hi, hw, getElem?_wake, pcs_getElem?]; rfl)
    have := sum_map_zipIdx_le (pcRank s.threads.length) (fun x => wakePc s x.2 x.1)
      (wakePc_rank s _) (s.threads.map (·.pc)) 0
    rw [List.length_map] at this
    simp only [hw, if_true] at hr
    omega

theorem completes_of_inv (n : Nat) {s : State} (h : Inv s) (hn : workLeft s < n) :
    ∃ sched, quiescent (run s sched) = true ∧ sched.length ≤ workLeft s :=
  Run.completes step run (fun _ => rfl) (fun _ _ _ => rfl)
    (fun h hq => progress_of_inv h hq)
    (fun h hs => ⟨inv_step hs h, step_decreases_work hs⟩) n h hn

end TurVerif.GroupCommit
