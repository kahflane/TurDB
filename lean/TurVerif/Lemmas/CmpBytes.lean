import TurVerif.Model.Simd
/-!
`Simd.cmpBytes` is a strict total order on byte strings: the three facts everything else uses, and
what a probe does to a list of keyed things scanned from the front (`cut`): slot lists and
association lists are both searched, inserted into and erased from at that cut.
-/
namespace TurVerif.C30
open TurVerif.Simd

theorem cmp_eq_iff (a b : List Nat) : cmpBytes a b = .eq ↔ a = b := by
  fun_induction cmpBytes a b <;> grind

theorem cmp_gt_iff (a b : List Nat) : cmpBytes a b = .gt ↔ cmpBytes b a = .lt := by
  fun_induction cmpBytes a b <;> grind [cmpBytes]

theorem cmp_lt_trans (a b c : List Nat) :
    cmpBytes a b = .lt → cmpBytes b c = .lt → cmpBytes a c = .lt := by
  fun_induction cmpBytes a b generalizing c <;> cases c <;> grind [cmpBytes]

theorem cmp_refl (a : List Nat) : cmpBytes a a = .eq := (cmp_eq_iff a a).mpr rfl

theorem cmp_lt_ne {a b : List Nat} (h : cmpBytes a b = .lt) : a ≠ b := by
  intro e; subst e; rw [cmp_refl] at h; cases h

/-- A probe `k` cuts a list into the longest prefix of smaller keys and a rest that is empty, starts
with a greater key, or starts with `k` itself. -/
theorem cut {α : Type} (key : α → List Nat) (k : List Nat) (xs : List α) :
    ∃ pre post, xs = pre ++ post ∧ (∀ x ∈ pre, cmpBytes (key x) k = .lt) ∧
      ((∀ c ∈ post.head?, cmpBytes (key c) k = .gt) ∨ ∃ c post', post = c :: post' ∧ key c = k) := by
  induction xs with
  | nil => exact ⟨[], [], rfl, by simp, .inl (by simp)⟩
  | cons x xs ih =>
    cases hc : cmpBytes (key x) k with
    | lt =>
      obtain ⟨pre, post, rfl, hpre, h⟩ := ih
      exact ⟨x :: pre, post, rfl, List.forall_mem_cons.mpr ⟨hc, hpre⟩, h⟩
    | eq => exact ⟨[], x :: xs, rfl, by simp, .inr ⟨x, xs, rfl, (cmp_eq_iff _ _).mp hc⟩⟩
    | gt => exact ⟨[], x :: xs, rfl, by simp, .inl (by simpa using hc)⟩

theorem lt_of_head_gt {α : Type} {key : α → List Nat} {k : List Nat} {post : List α}
    (hs : post.Pairwise fun a b => cmpBytes (key a) (key b) = .lt)
    (h : ∀ c ∈ post.head?, cmpBytes (key c) k = .gt) : ∀ x ∈ post, cmpBytes k (key x) = .lt := by
  cases post with
  | nil => simp
  | cons c post =>
    have hc := (cmp_gt_iff _ _).mp (h c rfl)
    intro x hx
    rcases List.mem_cons.mp hx with rfl | hx
    · exact hc
    · exact cmp_lt_trans _ _ _ hc ((List.pairwise_cons.mp hs).1 x hx)

/-- the cut of a sorted list: everything behind the probe's place is above the probe -/
theorem cut_sorted {α : Type} {key : α → List Nat} {xs : List α}
    (hs : xs.Pairwise fun a b => cmpBytes (key a) (key b) = .lt) (k : List Nat) :
    ∃ pre post, xs = pre ++ post ∧ (∀ x ∈ pre, cmpBytes (key x) k = .lt) ∧
      ((∀ x ∈ post, cmpBytes k (key x) = .lt) ∨
        ∃ c post', post = c :: post' ∧ key c = k ∧ ∀ x ∈ post', cmpBytes k (key x) = .lt) := by
  obtain ⟨pre, post, rfl, hpre, h⟩ := cut key k xs
  have hp := (List.pairwise_append.mp hs).2.1
  refine ⟨pre, post, rfl, hpre, h.imp (lt_of_head_gt hp) ?_⟩
  rintro ⟨c, post', rfl, hk⟩
  exact ⟨c, post', rfl, hk, fun x hx => hk ▸ (List.pairwise_cons.mp hp).1 x hx⟩

end TurVerif.C30
