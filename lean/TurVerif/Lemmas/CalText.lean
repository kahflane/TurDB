import TurVerif.Model.Cal
/-! The canonical texts of C41 (`YYYY-MM-DD`, `HH:MM:SS`): `format!` with zero padding yields explicit digit
lists for 2- and 4-digit fields; the parsers are run on those lists, the renderers on the values. -/
namespace TurVerif.Cal

/-- one digit of `format!("{:0w$}", n)`: the last digit is split off, the rest is the same format of `n / 10`
one narrower (`padNat` spelt out, with any fuel ≥ 2) -/
theorem padNat_digit (w f n : Nat) :
    List.replicate (w + 2 - (decRev (f + 2) n).length) 48 ++ (decRev (f + 2) n).reverse =
      (List.replicate (w + 1 - (decRev (f + 1) (n / 10)).length) 48 ++ (decRev (f + 1) (n / 10)).reverse)
        ++ [48 + n % 10] := by
  rw [decRev]
  by_cases h : n / 10 = 0
  · rw [if_pos h, h, decRev, if_pos (Nat.zero_div 10)]
    simp [List.replicate_succ']
  · rw [if_neg h]
    simp

theorem padNat2 (n : Nat) (h : n < 100) : padNat 2 n = [48 + n / 10, 48 + n % 10] := by
  rw [padNat, dec, List.length_reverse]
  refine (padNat_digit 0 18 n).trans ?_
  rw [decRev, if_pos (by omega), Nat.mod_eq_of_lt (show n / 10 < 10 by omega)]
  rfl

theorem padNat4 (n : Nat) (h : n < 10000) :
    padNat 4 n = [48 + n / 1000, 48 + n / 100 % 10, 48 + n / 10 % 10, 48 + n % 10] := by
  rw [padNat, dec, List.length_reverse]
  refine (padNat_digit 2 18 n).trans ?_
  rw [padNat_digit 1 17 (n / 10), padNat_digit 0 16 (n / 10 / 10), decRev, if_pos (by omega),
    show n / 10 / 10 = n / 100 by omega, show n / 100 / 10 = n / 1000 by omega,
    Nat.mod_eq_of_lt (show n / 1000 < 10 by omega)]
  rfl

theorem padInt_natCast (w n : Nat) : padInt w (n : Int) = padNat w n := by
  rw [padInt, if_neg (by omega), Int.toNat_natCast]

theorem isWs_digit (a : Nat) : isWs (48 + a) = false := by
  simp [isWs]; omega

theorem trimStart_eq_self (s : Text) (h : ∀ b ∈ s.head?, isWs b = false) : trimStart s = s := by
  cases s with
  | nil => rfl
  | cons b bs => rw [trimStart, h b rfl]; rfl

theorem trim_eq_self (s : Text) (h1 : ∀ b ∈ s.head?, isWs b = false)
    (h2 : ∀ b ∈ s.getLast?, isWs b = false) : trim s = s := by
  rw [trim, trimStart_eq_self s h1, trimStart_eq_self _ (by rwa [List.head?_reverse]), List.reverse_reverse]

theorem digitsVal_cons (a : Nat) (ha : a ≤ 9) (rest : Text) (acc : Nat) :
    digitsVal ((48 + a) :: rest) acc = digitsVal rest (acc * 10 + a) := by
  rw [digitsVal, if_pos (by simp [isDigit]; omega), Nat.add_sub_cancel_left]

/-- rewrite rules for `simp`: a digit is none of the separators the parsers look for, `-` `.` and space
(below `'0'`), `:` and `T` (above `'9'`) -/
theorem digit_ne_lt (a c : Nat) (h : c < 48) : (48 + a = c) = False := by
  apply eq_false; omega

theorem digit_ne_gt (a c : Nat) (ha : a ≤ 9) (h : 57 < c) : (48 + a = c) = False := by
  apply eq_false; omega

theorem parseU_digit (bound a v : Nat) (rest : Text) (hv : digitsVal ((48 + a) :: rest) 0 = some v)
    (hb : v < bound) : parseU bound ((48 + a) :: rest) = some v := by
  simp (disch := omega) [parseU, digit_ne_lt, hv, hb]

theorem parseI_digit (bound a : Nat) (rest : Text) :
    parseI bound ((48 + a) :: rest) = (parseU bound ((48 + a) :: rest)).map Int.ofNat := by
  simp (disch := omega) [parseI, digit_ne_lt]

theorem parseU_2 (bound n : Nat) (h : n < 100) (hb : 100 ≤ bound) :
    parseU bound [48 + n / 10, 48 + n % 10] = some n := by
  refine parseU_digit _ _ _ _ ?_ (by omega)
  rw [digitsVal_cons _ (by omega), digitsVal_cons _ (by omega), digitsVal]
  congr 1; omega

theorem parseU_4 (bound n : Nat) (h : n < 10000) (hb : 10000 ≤ bound) :
    parseU bound [48 + n / 1000, 48 + n / 100 % 10, 48 + n / 10 % 10, 48 + n % 10] = some n := by
  refine parseU_digit _ _ _ _ ?_ (by omega)
  rw [digitsVal_cons _ (by omega), digitsVal_cons _ (by omega), digitsVal_cons _ (by omega),
    digitsVal_cons _ (by omega), digitsVal]
  congr 1; omega

theorem parseI_4 (bound n : Nat) (h : n < 10000) (hb : 10000 ≤ bound) :
    parseI bound [48 + n / 1000, 48 + n / 100 % 10, 48 + n / 10 % 10, 48 + n % 10] = some (n : Int) := by
  rw [parseI_digit, parseU_4 bound n h hb]; rfl

theorem fmtYmd_nat (y m d : Nat) (hy : y < 10000) (hm : m < 100) (hd : d < 100) :
    fmtYmd (y : Int) m d =
      [48 + y / 1000, 48 + y / 100 % 10, 48 + y / 10 % 10, 48 + y % 10, 45, 48 + m / 10, 48 + m % 10, 45,
        48 + d / 10, 48 + d % 10] := by
  unfold fmtYmd
  rw [padInt_natCast, padNat4 y hy, padNat2 m hm, padNat2 d hd]
  rfl

theorem split_ymd (a b c e f g h i : Nat) :
    splitOn 45 [48 + a, 48 + b, 48 + c, 48 + e, 45, 48 + f, 48 + g, 45, 48 + h, 48 + i] []
      = [[48 + a, 48 + b, 48 + c, 48 + e], [48 + f, 48 + g], [48 + h, 48 + i]] := by
  simp (disch := omega) [splitOn, digit_ne_lt]

theorem litParseDate_fmt (y m d : Nat) (hy : y < 10000) (hm : m < 100) (hd : d < 100) :
    litParseDate (fmtYmd (y : Int) m d) =
      if litDateOk (y : Int) m d then some (litDateToDays (y : Int) m d) else none := by
  unfold litParseDate
  rw [fmtYmd_nat y m d hy hm hd, trim_eq_self _ (by simp [isWs_digit]) (by simp [isWs_digit]), split_ymd]
  dsimp only
  rw [parseI_4 _ y hy (by decide), parseU_2 _ m hm (by decide),
    parseU_2 _ d hd (by decide)]

theorem castParseDate_fmt (y m d : Nat) (hy : y < 10000) (hm : m < 100) (hd : d < 100) :
    castParseDate (fmtYmd (y : Int) m d) =
      if litDateOk (y : Int) m d then some (defDaysFromYmd (y : Int) m d) else none := by
  unfold castParseDate
  rw [fmtYmd_nat y m d hy hm hd, trim_eq_self _ (by simp [isWs_digit]) (by simp [isWs_digit]), split_ymd]
  dsimp only
  rw [parseI_4 _ y hy (by decide), parseU_2 _ m hm (by decide),
    parseU_2 _ d hd (by decide)]

theorem defParseDate_fmt (y m d : Nat) (hy : y < 10000) (hm : m < 100) (hd : d < 100) :
    defParseDate (fmtYmd (y : Int) m d) = some (defDaysFromYmd (y : Int) m d) := by
  unfold defParseDate
  rw [fmtYmd_nat y m d hy hm hd, split_ymd]
  dsimp only
  rw [parseI_4 _ y hy (by decide), parseU_2 _ m hm (by decide),
    parseU_2 _ d hd (by decide)]

theorem fmtHms_nat (h m s : Nat) (hh : h < 100) (hm : m < 100) (hs : s < 100) :
    fmtHms (h : Int) (m : Int) (s : Int) =
      [48 + h / 10, 48 + h % 10, 58, 48 + m / 10, 48 + m % 10, 58, 48 + s / 10, 48 + s % 10] := by
  unfold fmtHms
  rw [padInt_natCast, padInt_natCast, padInt_natCast, padNat2 h hh, padNat2 m hm, padNat2 s hs]
  rfl

theorem find46_hms (a b c e f g : Nat) :
    findByte 46 [48 + a, 48 + b, 58, 48 + c, 48 + e, 58, 48 + f, 48 + g] 0 = none := by
  simp (disch := omega) [findByte, digit_ne_lt]

theorem split_hms (a b c e f g : Nat) (ha : a ≤ 9) (hb : b ≤ 9) (hc : c ≤ 9) (he : e ≤ 9)
    (hf : f ≤ 9) (hg : g ≤ 9) :
    splitOn 58 [48 + a, 48 + b, 58, 48 + c, 48 + e, 58, 48 + f, 48 + g] []
      = [[48 + a, 48 + b], [48 + c, 48 + e], [48 + f, 48 + g]] := by
  simp (disch := omega) [splitOn, digit_ne_gt]

theorem litParseTime_fmt (h m s : Nat) (hh : h < 100) (hm : m < 100) (hs : s < 100) :
    litParseTime (fmtHms (h : Int) (m : Int) (s : Int)) =
      if h > 23 then none else if m > 59 then none else if s > 59 then none
      else some ((((h : Int) * 3600 + (m : Int) * 60 + (s : Int))) * 1000000) := by
  unfold litParseTime
  rw [fmtHms_nat h m s hh hm hs, trim_eq_self _ (by simp [isWs_digit]) (by simp [isWs_digit])]
  dsimp only
  rw [find46_hms]
  dsimp only
  rw [split_hms _ _ _ _ _ _ (by omega) (by omega) (by omega) (by omega) (by omega) (by omega)]
  dsimp only
  rw [parseU_2 _ h hh (by decide), parseU_2 _ m hm (by decide),
    parseU_2 _ s hs (by decide)]

theorem litParseTimestamp_fmt (y mo d h mi s : Nat) (hy : y < 10000) (hmo : mo < 100) (hd : d < 100)
    (hh : h < 100) (hmi : mi < 100) (hs : s < 100) :
    litParseTimestamp (fmtYmd (y : Int) mo d ++ [32] ++ fmtHms (h : Int) (mi : Int) (s : Int)) =
      (litParseDate (fmtYmd (y : Int) mo d)).bind (fun days =>
        (litParseTime (fmtHms (h : Int) (mi : Int) (s : Int))).map (fun t => days * microsPerDay + t)) := by
  unfold litParseTimestamp
  rw [fmtYmd_nat y mo d hy hmo hd, fmtHms_nat h mi s hh hmi hs,
    trim_eq_self _ (by simp [isWs_digit]) (by simp [isWs_digit])]
  dsimp only
  simp (disch := omega) [findByte, digit_ne_lt, digit_ne_gt]
  generalize litParseDate _ = a
  generalize litParseTime _ = b
  cases a <;> cases b <;> rfl

/-- Rust `/` and `%` split a second count `T = h:m:s` into its fields -/
theorem hms_split (h m s : Nat) (hm : m < 60) (hs : s < 60) (T : Int) (hT : T = h * 3600 + m * 60 + s) :
    T.tdiv 3600 = h ∧ (T.tmod 3600).tdiv 60 = m ∧ T.tmod 60 = s := by
  rw [Int.tdiv_eq_ediv_of_nonneg (by omega), Int.tmod_eq_emod_of_nonneg (by omega),
    Int.tdiv_eq_ediv_of_nonneg (by omega), Int.tmod_eq_emod_of_nonneg (by omega)]
  omega

theorem cliFormatTime_hms (h m s : Nat) (hm : m < 60) (hs : s < 60) :
    cliFormatTime ((((h : Int) * 3600 + (m : Int) * 60 + (s : Int))) * 1000000) =
      fmtHms (h : Int) (m : Int) (s : Int) := by
  obtain ⟨e1, e2, e3⟩ := hms_split h m s hm hs _ rfl
  unfold cliFormatTime
  dsimp only
  have hT : 0 ≤ (h : Int) * 3600 + (m : Int) * 60 + (s : Int) := by omega
  generalize (h : Int) * 3600 + (m : Int) * 60 + (s : Int) = T at *
  rw [show (T * 1000000).tdiv 1000000 = T by rw [Int.tdiv_eq_ediv_of_nonneg (by omega)]; omega,
    show (T * 1000000).tmod 1000000 = 0 by rw [Int.tmod_eq_emod_of_nonneg (by omega)]; omega,
    e1, e2, e3, if_pos rfl]

theorem cliFormatTimestamp_hms (days : Int) (h m s : Nat) (hdays : 0 ≤ days) (hh : h < 24) (hm : m < 60)
    (hs : s < 60) :
    cliFormatTimestamp (days * microsPerDay + (((h : Int) * 3600 + (m : Int) * 60 + (s : Int))) * 1000000) =
      (let r := cliJdnToYmd (2440588 + days)
       fmtYmd r.1 r.2.1 r.2.2 ++ [32] ++ fmtHms (h : Int) (m : Int) (s : Int)) := by
  obtain ⟨e1, e2, e3⟩ := hms_split h m s hm hs _ rfl
  unfold cliFormatTimestamp microsPerDay
  dsimp only
  have hT : 0 ≤ (h : Int) * 3600 + (m : Int) * 60 + (s : Int) ∧
      (h : Int) * 3600 + (m : Int) * 60 + (s : Int) < 86400 := by omega
  generalize (h : Int) * 3600 + (m : Int) * 60 + (s : Int) = T at *
  rw [show (days * (86400 * 1000000) + T * 1000000).tdiv 1000000 = days * 86400 + T by
      rw [Int.tdiv_eq_ediv_of_nonneg (by omega)]; omega,
    show (days * (86400 * 1000000) + T * 1000000).tmod 1000000 = 0 by
      rw [Int.tmod_eq_emod_of_nonneg (by omega)]; omega,
    show (days * 86400 + T).tdiv 86400 = days by rw [Int.tdiv_eq_ediv_of_nonneg (by omega)]; omega,
    show (days * 86400 + T).tmod 86400 = T by rw [Int.tmod_eq_emod_of_nonneg (by omega)]; omega,
    show ((T.natAbs : Nat) : Int) = T by omega, e1, e2, e3]
  rfl
end TurVerif.Cal
