import TurVerif.Lemmas.SieveShard
/-! The SIEVE cache model: `get_or_insert` on one shard, with the budget of `Pool::Cache`.  Through
every step the pool holds 16 KiB per entry of the shard plus a remainder that does not change
(`Owes`), except that a failing `init` leaves one page's worth behind (`leaked`). -/
namespace TurVerif.Sieve

theorem release_used (b : Budget) (n : Nat) : (b.release n).cacheUsed = b.cacheUsed - n := rfl

theorem allocate_spec (b b2 : Budget) (n : Nat) (h : b.allocate n = some b2) :
    b2.cacheUsed = b.cacheUsed + n ∧ b2.limit = b.limit ∧ b2.otherUsed = b.otherUsed := by
  unfold Budget.allocate at h
  grind

/-- the pool is charged 16 KiB for each of `n` entries, and `rest` bytes besides -/
def Owes (b : Option Budget) (n rest : Nat) : Prop :=
  ∀ bb, b = some bb → bb.cacheUsed = PAGE_SIZE * n + rest

theorem Owes.succ {b : Option Budget} {n rest : Nat} (h : Owes b n (rest + PAGE_SIZE)) :
    Owes b (n + 1) rest := fun bb hb => by
  rw [h bb hb, Nat.mul_succ, Nat.add_assoc, Nat.add_comm PAGE_SIZE]

theorem Owes.release {b : Option Budget} {n rest : Nat} (h : Owes b (n + 1) rest) :
    Owes (releaseB b PAGE_SIZE) n rest := by
  intro bb hb
  cases b with
  | none => cases hb
  | some b0 =>
    cases hb
    rw [release_used, h b0 rfl, Nat.mul_succ, Nat.add_right_comm, Nat.add_sub_cancel]

theorem Owes.allocate {b b2 : Budget} {n rest : Nat} (h : Owes (some b) n rest)
    (ha : b.allocate PAGE_SIZE = some b2) : Owes (some b2) n (rest + PAGE_SIZE) := by
  intro bb hb
  cases hb
  rw [(allocate_spec b b2 _ ha).1, h b rfl, Nat.add_assoc]

theorem not_mem_of_find_none {sh : Shard} {k : Key} (h : SInv sh) (hf : alFind sh.index k = none) :
    ∀ a ∈ sh.entries, a.key ≠ k := by
  intro a ha hk
  obtain ⟨i, hi⟩ := List.mem_iff_getElem?.mp ha
  cases hf.symm.trans (hk ▸ h.indexes.find hi)

/-- one eviction step of `get_or_insert`: only an unpinned entry leaves (**evict_never_pinned**),
and when one does its 16 KiB are given back -/
theorem evictOne_spec {sh sh' : Shard} {b b' : Option Budget} {fl : Option Bool} {w : String}
    (h : SInv sh) (hr : evictOne sh b = (sh', b', fl, w)) :
    SInv sh' ∧ Evicted sh sh' ∧
    (fl = some true → sh'.entries.length + 1 = sh.entries.length ∧ b' = releaseB b PAGE_SIZE) ∧
    (fl ≠ some true → sh'.entries.length = sh.entries.length) := by
  unfold evictOne at hr
  cases he : evict sh with
  | mk sh1 r =>
    obtain ⟨s1, f1, c1, noob, hv⟩ := evict_spec h he
    have ev1 := Evicted.of_flagged f1 c1
    rw [he] at hr
    cases r with
    | victim k d =>
      obtain ⟨e, hea, rfl, hp⟩ := hv k d rfl
      simp only [s1.indexes.find hea] at hr
      cases hrm : remove sh1 sh1.hand with
      | none => simp [remove, hea] at hrm
      | some sh2 =>
        rw [hrm] at hr
        cases hr
        obtain ⟨s2, c2, e2⟩ := remove_sinv s1 hrm
        obtain ⟨ev2, l2⟩ := Evicted.of_remove hea hp c2 e2
        exact ⟨s2, ev1.trans ev2, fun _ => ⟨by rw [l2, f1.1], rfl⟩, fun hc => absurd rfl hc⟩
    | none => cases hr; exact ⟨s1, ev1, nofun, fun _ => f1.1⟩
    | oob => exact absurd rfl noob
    | fuelOut => cases hr; exact ⟨s1, ev1, nofun, fun _ => f1.1⟩

/-- the `while !can_allocate` loop: only unpinned pages leave, each gives 16 KiB back -/
theorem budgetLoop_spec {f : Nat} {sh sh' : Shard} {b b' : Budget} {fl : Option Bool} {w : String}
    (h : SInv sh) (hr : budgetLoop f sh b = (sh', b', fl, w)) :
    SInv sh' ∧ Evicted sh sh' ∧
    ∀ rest, Owes (some b) sh.entries.length rest → Owes (some b') sh'.entries.length rest := by
  fun_induction budgetLoop f sh b with
  | case1 => cases hr; exact ⟨h, .refl _, fun _ ho => ho⟩
  | case2 => cases hr; exact ⟨h, .refl _, fun _ ho => ho⟩
  | case3 _ _ _ _ _ _ _ hev ih =>
    obtain ⟨s1, ev1, ht, -⟩ := evictOne_spec h hev
    obtain ⟨l1, hb⟩ := ht rfl
    obtain ⟨s2, ev2, ho2⟩ := ih s1 hr
    exact ⟨s2, ev1.trans ev2, fun rest ho => ho2 rest (hb ▸ Owes.release (l1 ▸ ho))⟩
  | case4 _ _ _ _ _ _ _ hev =>
    cases hr
    obtain ⟨s1, ev1, -, hf⟩ := evictOne_spec h hev
    exact ⟨s1, ev1, fun rest ho => hf nofun ▸ ho⟩
  | case5 _ _ _ _ _ _ _ _ hnt _ hev =>
    cases hr
    obtain ⟨s1, ev1, ht, hf⟩ := evictOne_spec h hev
    exact ⟨s1, ev1, fun rest ho => hf (fun hc => hnt _ (ht hc).2 hc) ▸ ho⟩

/-- bytes left charged to the pool for a page that is not cached: `init(..)?` returns after
`budget.allocate` and nothing is given back -/
def leaked : GRes → Nat
  | .errInit => PAGE_SIZE
  | _ => 0

theorem leaked_of_ne {r : GRes} (h : r ≠ .errInit) : leaked r = 0 := by
  cases r <;> first | rfl | exact absurd rfl h

/-- what a call on one shard guarantees, `paid` being what the pool has already been charged for
the page to come: the shard stays in good shape, pinned pages stay, and the charge follows the
entries, except for what a failing `init` leaves behind -/
def Served (sh : Shard) (b : Option Budget) (paid : Nat) (g : Shard × Option Budget × GRes) : Prop :=
  Good g.1 ∧ PinnedKept sh.entries g.1.entries ∧
  ∀ rest, Owes b sh.entries.length (rest + paid) → (∀ w, g.2.2 ≠ .broken w) →
    Owes g.2.1 g.1.entries.length (rest + leaked g.2.2)

theorem goiFinish_spec {sh : Shard} (b : Option Budget) {k : Key} (initOk : Bool) (val : Nat)
    (h : Good sh) (hk : ∀ a ∈ sh.entries, a.key ≠ k) :
    Served sh b PAGE_SIZE (goiFinish sh b k initOk val) := by
  -- `init` and `insert`, once room has been made
  have tail : ∀ (sh2 : Shard) (b2 : Option Budget), SInv sh2 → Evicted sh sh2 →
      sh2.entries.length < sh.cap →
      (∀ rest, Owes b sh.entries.length (rest + PAGE_SIZE) →
        Owes b2 sh2.entries.length (rest + PAGE_SIZE)) →
      Served sh b PAGE_SIZE (if initOk then (insert sh2 ⟨k, true, false, 1, val⟩, b2, .inserted)
        else (sh2, b2, .errInit)) := by
    intro sh2 b2 s2 ev2 l2 hb
    split
    · obtain ⟨g, l, pk⟩ := insert_spec ⟨k, true, false, 1, val⟩ s2 (ev2.absent hk) (ev2.cap ▸ l2)
      exact ⟨g, ev2.kept.trans pk, fun rest ho _ => l ▸ (hb rest ho).succ⟩
    · exact ⟨ev2.good h s2, ev2.kept, fun rest ho _ => hb rest ho⟩
  unfold goiFinish
  by_cases hfull : sh.cap ≤ sh.entries.length
  · simp only [hfull, if_true]
    cases hev : evictOne sh b with
    | mk sh1 rest =>
      obtain ⟨b1, fl, w⟩ := rest
      obtain ⟨s1, ev1, ht, hf⟩ := evictOne_spec h.1 hev
      rcases fl with _ | _ | _ <;> dsimp only
      · exact ⟨ev1.good h s1, ev1.kept, fun _ _ hb => absurd rfl (hb w)⟩
      · exact ⟨ev1.good h s1, ev1.kept, fun rest ho _ => hf nofun ▸ ho.succ.release⟩
      · obtain ⟨l1, hb⟩ := ht rfl
        exact tail sh1 b1 s1 ev1 (Nat.le_trans (Nat.le_of_eq l1) h.2)
          fun rest ho => hb ▸ Owes.release (l1 ▸ ho)
  · simp only [hfull, if_false]
    exact tail sh b h.1 (.refl _) (Nat.lt_of_not_le hfull) fun _ ho => ho

theorem goiMiss_spec {sh : Shard} (b : Option Budget) {k : Key} (initOk : Bool) (val : Nat)
    (h : Good sh) (hk : ∀ a ∈ sh.entries, a.key ≠ k) :
    Served sh b 0 (goiMiss sh b k initOk val) := by
  unfold goiMiss
  cases b with
  | none =>
    obtain ⟨g, pk, ho⟩ := goiFinish_spec none initOk val h hk
    exact ⟨g, pk, fun rest _ => ho rest nofun⟩
  | some bb =>
    simp only
    cases hl : budgetLoop (sh.entries.length + 2) sh bb with
    | mk sh1 rest =>
      obtain ⟨b1, fl, w⟩ := rest
      obtain ⟨s1, ev1, ho1⟩ := budgetLoop_spec h.1 hl
      rcases fl with _ | _ | _ <;> simp only [goiAfterLoop]
      · exact ⟨ev1.good h s1, ev1.kept, fun _ _ hb => absurd rfl (hb w)⟩
      · exact ⟨ev1.good h s1, ev1.kept, fun rest ho _ => ho1 rest ho⟩
      · cases hal : b1.allocate PAGE_SIZE with
        | none =>
          rw [goiAlloc, hal]
          exact ⟨ev1.good h s1, ev1.kept, fun rest ho _ => ho1 rest ho⟩
        | some b2 =>
          rw [goiAlloc, hal]
          obtain ⟨g, pk, ho⟩ :=
            goiFinish_spec (some b2) initOk val (ev1.good h s1) (ev1.absent hk)
          exact ⟨g, ev1.kept.trans pk, fun rest ho0 => ho rest ((ho1 rest ho0).allocate hal)⟩

theorem goiShard_spec {sh : Shard} (b : Option Budget) (k : Key) (initOk : Bool) (val : Nat)
    (h : Good sh) : Served sh b 0 (goiShard sh b k initOk val) := by
  unfold goiShard
  split
  · obtain ⟨g, l, pk⟩ := touch_spec _ h
    exact ⟨g, pk, fun rest ho _ => l ▸ ho⟩
  · rename_i hf
    exact goiMiss_spec b initOk val h (not_mem_of_find_none h.1 hf)
end TurVerif.Sieve
