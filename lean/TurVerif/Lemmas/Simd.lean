import TurVerif.Lemmas.CmpBytes
/-!
Helper definitions and lemmas for C30 (leaf key search): the prefix hint is monotone in the key,
well-formed leaves, the bracketing invariant that every loop of the search keeps, correctness of the
final binary search, and the bridge from the 32-bit lane masks of the AVX2 code to per-lane facts.
-/
namespace TurVerif.C30
open TurVerif.Simd

def BytesOK (k : List Nat) : Prop := ∀ b ∈ k, b < 256

theorem bytesOK_cons {x : Nat} {xs : List Nat} : BytesOK (x :: xs) ↔ x < 256 ∧ BytesOK xs := by
  simp [BytesOK]

/-! ### the prefix hint

`prefixOf` is the case `w = 4` of the big-endian value of the first `w` bytes, and that value
compares like the byte strings wherever it differs. -/

def bePrefix : Nat → List Nat → Nat
  | w + 1, x :: xs => x * 256 ^ w + bePrefix w xs
  | _, _ => 0

theorem prefixOf_eq (k : List Nat) : prefixOf k = bePrefix 4 k := by
  rcases k with _ | ⟨a, _ | ⟨b, _ | ⟨c, _ | ⟨d, r⟩⟩⟩⟩ <;> simp +arith [prefixOf, byteAt, bePrefix]

theorem digit_lt {M x y p : Nat} (hp : p < M) (hxy : x < y) : x * M + p < y * M := by
  have := Nat.mul_le_mul_right M (Nat.succ_le_of_lt hxy)
  rw [Nat.succ_mul] at this
  omega

theorem bePrefix_lt (w : Nat) (k : List Nat) (hk : BytesOK k) : bePrefix w k < 256 ^ w := by
  fun_induction bePrefix w k with
  | case1 w x xs ih =>
    obtain ⟨hx, hxs⟩ := bytesOK_cons.1 hk
    rw [Nat.pow_succ']
    exact digit_lt (ih hxs) hx
  | case2 => exact Nat.pow_pos (by decide)

theorem bePrefix_lt_imp (w : Nat) (a b : List Nat) (ha : BytesOK a) (hb : BytesOK b) :
    bePrefix w a < bePrefix w b → cmpBytes a b = .lt := by
  induction w generalizing a b with
  | zero => simp [bePrefix]
  | succ w ih =>
    cases a with
    | nil => cases b <;> simp [bePrefix, cmpBytes]
    | cons x xs =>
      cases b with
      | nil => simp [bePrefix]
      | cons y ys =>
        obtain ⟨_, hxs⟩ := bytesOK_cons.1 ha
        obtain ⟨_, hys⟩ := bytesOK_cons.1 hb
        simp only [bePrefix, cmpBytes]
        intro h
        split
        · rfl
        · split
          · have := digit_lt (bePrefix_lt w ys hys) ‹y < x›
            omega
          · obtain rfl : x = y := by omega
            exact ih xs ys hxs hys (by omega)

theorem prefix_lt_imp (a b : List Nat) (ha : BytesOK a) (hb : BytesOK b) :
    prefixOf a < prefixOf b → cmpBytes a b = .lt := by
  rw [prefixOf_eq, prefixOf_eq]
  exact bePrefix_lt_imp 4 a b ha hb

/-- What the leaf API guarantees of a page. `2045 = (PAGE_SIZE - LEAF_CONTENT_START) / SLOT_SIZE` slots
fit a page, so the `slotOob` guard of the final search never fires (`slotOob_false`). -/
structure WF (L : Leaf) : Prop where
  n_le : L.n ≤ 2045
  pfx_eq : ∀ i, i < L.n → L.pfx i = prefixOf (L.key i)
  bytes : ∀ i, i < L.n → BytesOK (L.key i)
  off_ok : ∀ i, i < L.n → L.off i + (L.key i).length ≤ PAGE_SIZE
  sorted : ∀ i, i + 1 < L.n → cmpBytes (L.key i) (L.key (i + 1)) = .lt

theorem sorted_lt {L : Leaf} (w : WF L) {i j : Nat} (hij : i < j) (hj : j < L.n) :
    cmpBytes (L.key i) (L.key j) = .lt := by
  induction j with
  | zero => omega
  | succ j ih =>
    by_cases h : i = j
    · subst h; exact w.sorted i hj
    · exact cmp_lt_trans _ _ _ (ih (by omega) (by omega)) (w.sorted j hj)

theorem prefix_mono (a b : List Nat) (ha : BytesOK a) (hb : BytesOK b)
    (h : cmpBytes a b ≠ .gt) : prefixOf a ≤ prefixOf b := by
  apply Nat.le_of_not_lt
  intro hlt
  exact h ((cmp_gt_iff a b).2 (prefix_lt_imp b a hb ha hlt))

theorem pfx_mono {L : Leaf} (w : WF L) {i j : Nat} (hij : i ≤ j) (hj : j < L.n) :
    L.pfx i ≤ L.pfx j := by
  by_cases h : i = j
  · subst h; exact Nat.le_refl _
  · rw [w.pfx_eq i (by omega), w.pfx_eq j hj]
    apply prefix_mono _ _ (w.bytes i (by omega)) (w.bytes j hj)
    rw [sorted_lt w (by omega) hj]; simp

def Below (L : Leaf) (k : List Nat) (i : Nat) : Prop := ∀ j, j < i → cmpBytes (L.key j) k = .lt
def Above (L : Leaf) (k : List Nat) (i : Nat) : Prop :=
  ∀ j, i ≤ j → j < L.n → cmpBytes (L.key j) k = .gt

theorem spec_of_below {L : Leaf} {k : List Nat} {m : Nat} (hb : Below L k m) (hm : m ≤ L.n) :
    spec L k = specFrom L k (L.n - m) m := by
  induction m with
  | zero => rfl
  | succ m ih =>
    rw [ih (fun j hj => hb j (by omega)) (by omega), show L.n - m = L.n - (m + 1) + 1 by omega,
      specFrom, hb m (by omega)]

theorem spec_found {L : Leaf} {k : List Nat} {m : Nat} (hm : m < L.n) (hb : Below L k m)
    (he : cmpBytes (L.key m) k = .eq) : spec L k = .found m := by
  rw [spec_of_below hb (Nat.le_of_lt hm), show L.n - m = L.n - m - 1 + 1 by omega, specFrom, he]

theorem spec_notFound {L : Leaf} {k : List Nat} {m : Nat} (hm : m ≤ L.n) (hb : Below L k m)
    (hg : m < L.n → cmpBytes (L.key m) k = .gt) : spec L k = .notFound m := by
  rw [spec_of_below hb hm]
  by_cases h : m < L.n
  · rw [show L.n - m = L.n - m - 1 + 1 by omega, specFrom, hg h]
  · rw [show L.n - m = 0 by omega, specFrom]

theorem below_succ {L : Leaf} {k : List Nat} {i : Nat} (hb : Below L k i)
    (hc : cmpBytes (L.key i) k = .lt) : Below L k (i + 1) := fun j hj =>
  if e : j = i then e ▸ hc else hb j (by omega)

theorem specFrom_sound {L : Leaf} (k : List Nat) :
    ∀ f i, f + i = L.n → Below L k i →
      match specFrom L k f i with
      | .found m => m < L.n ∧ L.key m = k
      | .notFound m => m ≤ L.n ∧ Below L k m ∧ (m < L.n → cmpBytes (L.key m) k = .gt) := by
  intro f
  induction f with
  | zero => intro i hi hb; exact ⟨by omega, hb, fun h => by omega⟩
  | succ f ih =>
    intro i hi hb
    rw [specFrom]
    cases hc : cmpBytes (L.key i) k with
    | lt => exact ih (i + 1) (by omega) (below_succ hb hc)
    | eq => exact ⟨by omega, (cmp_eq_iff _ _).1 hc⟩
    | gt => exact ⟨by omega, hb, fun _ => hc⟩

theorem below_step {L : Leaf} (w : WF L) {k : List Nat} {m : Nat} (hm : m < L.n)
    (h : cmpBytes (L.key m) k = .lt) : Below L k (m + 1) := by
  intro j hj
  by_cases e : j = m
  · subst e; exact h
  · exact cmp_lt_trans _ _ _ (sorted_lt w (by omega) hm) h

theorem above_step {L : Leaf} (w : WF L) {k : List Nat} {m : Nat} (hm : m < L.n)
    (h : cmpBytes (L.key m) k = .gt) : Above L k m := by
  intro j hj hjn
  by_cases e : j = m
  · subst e; exact h
  · rw [cmp_gt_iff] at h ⊢
    exact cmp_lt_trans _ _ _ h (sorted_lt w (by omega) hjn)

theorem below_of_eq {L : Leaf} (w : WF L) {k : List Nat} {m : Nat} (hm : m < L.n)
    (h : cmpBytes (L.key m) k = .eq) : Below L k m := by
  intro j hj
  rw [cmp_eq_iff] at h
  rw [← h]
  exact sorted_lt w hj hm

theorem slotOob_false {i : Nat} (h : i < 2045) : slotOob i = false := by
  unfold slotOob LEAF_CONTENT_START SLOT_SIZE PAGE_SIZE
  exact decide_eq_false (by omega)

theorem spec_empty (L : Leaf) (k : List Nat) (h : L.n = 0) : spec L k = .notFound 0 := by
  simp [spec, h, specFrom]

/-! ### the bracketing invariant

All four loops keep one invariant; the two ways of shrinking the range need no side condition on
the new ends, because a slot that compares the wrong way cannot lie beyond the other end. -/

structure Bracket (L : Leaf) (k : List Nat) (l r : Nat) : Prop where
  lr : l ≤ r
  rn : r ≤ L.n
  below : Below L k l
  above : Above L k r

theorem Bracket.init (L : Leaf) (k : List Nat) : Bracket L k 0 L.n :=
  ⟨Nat.zero_le _, Nat.le_refl _, fun j h => absurd h (Nat.not_lt_zero j),
    fun _ h1 h2 => absurd h2 (Nat.not_lt.2 h1)⟩

theorem Bracket.empty {L : Leaf} (k : List Nat) (h0 : L.n = 0) : Bracket L k 0 0 := by
  have h := Bracket.init L k
  rwa [h0] at h

theorem Bracket.raise {L : Leaf} (w : WF L) {k : List Nat} {l r m : Nat} (h : Bracket L k l r)
    (hm : m < L.n) (hc : cmpBytes (L.key m) k = .lt) : Bracket L k (m + 1) r :=
  ⟨Nat.lt_of_not_le (fun hrm => nomatch hc.symm.trans (h.above m hrm hm)), h.rn,
    below_step w hm hc, h.above⟩

theorem Bracket.lower {L : Leaf} (w : WF L) {k : List Nat} {l r m : Nat} (h : Bracket L k l r)
    (hm : m < L.n) (hc : cmpBytes (L.key m) k = .gt) : Bracket L k l m :=
  ⟨Nat.le_of_not_lt (fun hml => nomatch hc.symm.trans (h.below m hml)), Nat.le_of_lt hm, h.below,
    above_step w hm hc⟩

/-- at a slot of a well-formed leaf the prefix hints decide the key comparison when they differ -/
theorem Bracket.raisePfx {L : Leaf} (w : WF L) {k : List Nat} (hk : BytesOK k) {l r m : Nat}
    (h : Bracket L k l r) (hm : m < L.n) (hlt : L.pfx m < prefixOf k) : Bracket L k (m + 1) r := by
  rw [w.pfx_eq m hm] at hlt
  exact h.raise w hm (prefix_lt_imp _ _ (w.bytes m hm) hk hlt)

theorem Bracket.lowerPfx {L : Leaf} (w : WF L) {k : List Nat} (hk : BytesOK k) {l r m : Nat}
    (h : Bracket L k l r) (hm : m < L.n) (hgt : prefixOf k < L.pfx m) : Bracket L k l m := by
  rw [w.pfx_eq m hm] at hgt
  exact h.lower w hm ((cmp_gt_iff _ _).2 (prefix_lt_imp _ _ hk (w.bytes m hm) hgt))

theorem Bracket.widen {L : Leaf} {k : List Nat} {l r l' r' : Nat} (h : Bracket L k l r)
    (hl : l' ≤ l) (hr : r ≤ r') (hn : r' ≤ L.n) : Bracket L k l' r' :=
  ⟨Nat.le_trans hl (Nat.le_trans h.lr hr), hn, fun j hj => h.below j (Nat.lt_of_lt_of_le hj hl),
    fun j hj => h.above j (Nat.le_trans hr hj)⟩

theorem final_correct {L : Leaf} (w : WF L) {k : List Nat} (hk : BytesOK k) :
    ∀ f l r, Bracket L k l r → r - l < f → finalLoop L k (prefixOf k) f l r = spec L k := by
  intro f
  induction f with
  | zero => intro l r _ h; omega
  | succ f ih =>
    intro l r h hf
    rw [finalLoop]
    by_cases hlt : l < r
    · rw [if_neg (not_not_intro hlt)]
      extract_lets mid p
      have hmid : l ≤ mid ∧ mid < r := by omega
      have hmn : mid < L.n := by have := h.rn; omega
      have := w.n_le
      have := w.off_ok mid hmn
      clear_value mid
      rw [slotOob_false (by omega), if_neg Bool.false_ne_true]
      split
      · exact ih _ _ (h.raisePfx w hk hmn ‹_›) (by omega)
      split
      · exact ih _ _ (h.lowerPfx w hk hmn ‹_›) (by omega)
      rw [if_neg (by omega)]
      split
      · exact (spec_found hmn (below_of_eq w hmn ‹_›) ‹_›).symm
      · exact ih _ _ (h.raise w hmn ‹_›) (by omega)
      · exact ih _ _ (h.lower w hmn ‹_›) (by omega)
    · obtain rfl : l = r := by have := h.lr; omega
      rw [if_pos hlt]
      exact (spec_notFound h.rn h.below (h.above l (Nat.le_refl _))).symm

theorem finish_correct {L : Leaf} (w : WF L) {k : List Nat} (hk : BytesOK k) {l r : Nat}
    (h : Bracket L k l r) : finish L k l r = spec L k := by
  rw [finish, Nat.min_eq_left h.rn]
  exact final_correct w hk (L.n + 1) l r h (by have := h.rn; omega)

/-- `find_key_simd` is right for every narrowing that keeps the bracket -/
theorem find_correct {L : Leaf} (w : WF L) {k : List Nat} (hk : BytesOK k) {l r : Nat}
    (h : Bracket L k l r) :
    (if L.n = 0 then SearchResult.notFound 0 else finish L k l r) = spec L k := by
  split
  · exact (spec_empty L k ‹_›).symm
  · exact finish_correct w hk h

theorem scalar_inv {L : Leaf} (w : WF L) {k : List Nat} (hk : BytesOK k) :
    ∀ f l r, Bracket L k l r →
      Bracket L k (scalarLoop L (prefixOf k) f l r).1 (scalarLoop L (prefixOf k) f l r).2.1 := by
  intro f
  induction f with
  | zero => intro l r h; exact h
  | succ f ih =>
    intro l r h
    rw [scalarLoop]
    extract_lets mid p
    by_cases h4 : r - l < 4
    · rw [if_pos h4]; exact h
    rw [if_neg h4]
    have hmn : mid < L.n := by have := h.rn; omega
    clear_value mid
    split
    · exact h
    split
    · exact ih _ _ (h.raisePfx w hk hmn ‹_›)
    split
    · exact ih _ _ (h.lowerPfx w hk hmn ‹_›)
    · exact h

theorem narrowScalar_bracket {L : Leaf} (w : WF L) {k : List Nat} (hk : BytesOK k) :
    Bracket L k (narrowScalar L (prefixOf k)).1 (narrowScalar L (prefixOf k)).2.1 := by
  unfold narrowScalar
  split
  · exact Bracket.empty k ‹_›
  · exact scalar_inv w hk _ _ _ (Bracket.init L k)

/-! ### lane masks

A mask is read lane by lane: `lead` and `upto` are what the bit loops compute on it, for any number
of lanes; `lanes_facts` puts in the eight lanes of a batch. -/

theorem trailingOnes_odd (w x : Nat) : trailingOnes (w + 1) (2 * x + 1) = 1 + trailingOnes w x := by
  rw [trailingOnes, if_pos (by omega), show (2 * x + 1) / 2 = x by omega]

theorem trailingOnes_even (w x : Nat) : trailingOnes w (2 * x) = 0 := by
  cases w with
  | zero => rfl
  | succ w => rw [trailingOnes, if_neg (by omega)]

theorem bitLen_double (w x d : Nat) (hx : x ≠ 0) (hd : d < 2) :
    bitLen (w + 1) (2 * x + d) = 1 + bitLen w x := by
  rw [bitLen, if_neg (by omega), show (2 * x + d) / 2 = x by omega]

theorem bitLen_zero (w : Nat) : bitLen w 0 = 0 := by
  cases w <;> simp [bitLen]

def lead : List Bool → Nat
  | true :: xs => lead xs + 1
  | _ => 0

/-- length of the shortest prefix that holds every `true` -/
def upto : List Bool → Nat
  | [] => 0
  | x :: xs => if upto xs = 0 then x.toNat else upto xs + 1

theorem lead_spec (l : List Bool) :
    lead l ≤ l.length ∧ (∀ i, i < lead l → l[i]? = some true) ∧
    (lead l < l.length → l[lead l]? = some false) := by
  fun_induction lead l with
  | case1 xs ih =>
    refine ⟨by simp; omega, fun i hi => ?_, fun hl => ?_⟩
    · cases i with
      | zero => rfl
      | succ i => simpa using ih.2.1 i (by omega)
    · simpa using ih.2.2 (by simpa using hl)
  | case2 l h =>
    refine ⟨Nat.zero_le _, fun i hi => by omega, fun hl => ?_⟩
    match l, h with
    | false :: _, _ => rfl
    | true :: xs, h => exact absurd rfl (h xs)

theorem upto_spec (l : List Bool) :
    upto l ≤ l.length ∧ (0 < upto l → l[upto l - 1]? = some true) ∧
    ∀ i, upto l ≤ i → l[i]? ≠ some true := by
  induction l with
  | nil => simp [upto]
  | cons x xs ih =>
    unfold upto
    split
    · rename_i h
      rw [h] at ih
      refine ⟨by cases x <;> simp, fun hx => by cases x <;> simp at hx ⊢, fun i hi => ?_⟩
      cases i with
      | zero => cases x <;> simp at hi ⊢
      | succ i => simpa using ih.2.2 i (Nat.zero_le _)
    · rename_i h
      refine ⟨by simp; omega, fun _ => ?_, fun i hi => ?_⟩
      · rw [Nat.add_sub_cancel, show upto xs = (upto xs - 1) + 1 by omega]
        simpa using ih.2.1 (by omega)
      · cases i with
        | zero => omega
        | succ i => simpa using ih.2.2 i (by omega)

theorem movemask_eq_zero (l : List Bool) : movemask l = 0 ↔ upto l = 0 := by
  induction l with
  | nil => simp [movemask, upto]
  | cons x xs ih =>
    rw [movemask, upto]
    cases x
    · simp; omega
    · simp; split <;> omega

theorem movemask_full (l : List Bool) :
    movemask l < 16 ^ l.length ∧ (movemask l + 1 = 16 ^ l.length ↔ lead l = l.length) := by
  induction l with
  | nil => simp [movemask, lead]
  | cons x xs ih =>
    rw [movemask, List.length_cons, Nat.pow_succ]
    cases x <;> simp [lead] <;> omega

theorem trailingOnes_movemask (l : List Bool) :
    trailingOnes (4 * l.length) (movemask l) = 4 * lead l := by
  induction l with
  | nil => rfl
  | cons x xs ih =>
    rw [movemask, List.length_cons, Nat.mul_succ]
    cases x
    · rw [show (if false = true then 15 else 0) + 16 * movemask xs = 2 * (8 * movemask xs) by
        simp; omega]
      simp [trailingOnes_even, lead]
    · rw [show (if true = true then 15 else 0) + 16 * movemask xs
          = 2 * (2 * (2 * (2 * movemask xs + 1) + 1) + 1) + 1 by simp; omega]
      simp only [trailingOnes_odd, ih, lead]; omega

theorem bitLen_movemask (l : List Bool) : bitLen (4 * l.length) (movemask l) = 4 * upto l := by
  induction l with
  | nil => rfl
  | cons x xs ih =>
    rw [movemask, upto, List.length_cons, Nat.mul_succ]
    by_cases hm : movemask xs = 0
    · rw [if_pos ((movemask_eq_zero xs).1 hm), hm]
      cases x <;> simp [bitLen, bitLen_zero]
    · rw [if_neg (mt (movemask_eq_zero xs).2 hm)]
      have hd : x.toNat < 2 := by cases x <;> simp
      rw [show (if x = true then 15 else 0) + 16 * movemask xs
          = 2 * (2 * (2 * (2 * movemask xs + x.toNat) + x.toNat) + x.toNat) + x.toNat by
        cases x <;> simp <;> omega]
      rw [bitLen_double _ _ _ (by omega) hd, bitLen_double _ _ _ (by omega) hd,
        bitLen_double _ _ _ (by omega) hd, bitLen_double _ _ _ hm hd]
      omega

theorem lanes_get (n : Nat) (p : Nat → Prop) [DecidablePred p] (i : Nat) :
    let l := (List.range n).map fun i => decide (p i)
    (l[i]? = some true ↔ i < n ∧ p i) ∧ (l[i]? = some false ↔ i < n ∧ ¬ p i) := by
  by_cases h : i < n <;> simp [h]

theorem lastEqIdx_eq {m u : Nat} (h : bitLen 32 m = 4 * u) (h1 : 0 < u) (h8 : u ≤ 8) :
    lastEqIdx m = u - 1 := by
  unfold lastEqIdx leadingZeros32
  rw [h]; split <;> omega

/-- Per-lane reading of the mask computations of one AVX2 batch, for an arbitrary lane predicate.
(`trailing_zeros` of the mask is not read: the first equal lane only enters the result through a
`min` with a bound that already holds.) -/
theorem lanes_facts (p : Nat → Prop) [DecidablePred p] (m : Nat)
    (hm : m = movemask ((List.range 8).map fun i => decide (p i))) :
    (m = 4294967295 ↔ trailingOnes 32 m / 4 = 8) ∧
    (m = 0 ↔ ∀ i, i < 8 → ¬ p i) ∧
    (trailingOnes 32 m / 4 ≤ 8 ∧ (∀ i, i < trailingOnes 32 m / 4 → p i) ∧
      (trailingOnes 32 m / 4 < 8 → ¬ p (trailingOnes 32 m / 4))) ∧
    (m ≠ 0 → lastEqIdx m < 8 ∧ p (lastEqIdx m) ∧ ∀ i, lastEqIdx m < i → i < 8 → ¬ p i) := by
  have getT := fun i => (lanes_get 8 p i).1
  have getF := fun i => (lanes_get 8 p i).2
  have hlen : ((List.range 8).map fun i => decide (p i)).length = 8 := by simp
  generalize (List.range 8).map (fun i => decide (p i)) = l at *
  subst hm
  obtain ⟨t1, t2, t3⟩ := lead_spec l
  obtain ⟨u1, u2, u3⟩ := upto_spec l
  have hfull := (movemask_full l).2
  have hzero := movemask_eq_zero l
  have hto := trailingOnes_movemask l
  have hbl := bitLen_movemask l
  simp only [hlen, Nat.reduceMul, Nat.reducePow] at t1 t3 u1 hfull hto hbl
  rw [show trailingOnes 32 (movemask l) / 4 = lead l by omega]
  refine ⟨by omega, ?_, ⟨t1, fun i hi => ((getT i).1 (t2 i hi)).2, fun h => ((getF _).1 (t3 h)).2⟩,
    fun hne => ?_⟩
  · rw [hzero]
    refine ⟨fun h i hi hp => u3 i (by omega) ((getT i).2 ⟨hi, hp⟩), fun h => ?_⟩
    -- otherwise lane `upto l - 1` would be set
    apply Nat.eq_zero_of_not_pos
    intro hpos
    have hlast := (getT _).1 (u2 hpos)
    exact h _ hlast.1 hlast.2
  · have hpos : 0 < upto l := by omega
    rw [lastEqIdx_eq hbl hpos u1]
    have hlast := (getT _).1 (u2 hpos)
    exact ⟨hlast.1, hlast.2, fun i hi hi8 hp => u3 i (by omega) ((getT i).2 ⟨hi8, hp⟩)⟩

/-! ### one AVX2 batch, and the loop invariants -/

theorem ltLane_eq (t p : Nat) : cmpgtI32 (biasI32 t) (biasI32 p) = decide (p < t) := by
  unfold cmpgtI32 biasI32
  exact decide_eq_decide.2 (by omega)

theorem eqLane_iff (t p : Nat) : decide (p = t) = true ↔ p = t := by simp

theorem batchStart_bounds {l r : Nat} (h : ¬ r - l < 8) :
    l ≤ batchStart l r ∧ batchStart l r + 8 ≤ r := by
  simp only [batchStart]; omega

/-- What the masks of the batch at `bs` say about its eight slot prefixes in a sorted leaf: `c` lanes
are below the target, `leq` is the last lane that equals it. A structure and not a conjunction, so
that `omega` in the loop proofs sees only the fields a step asks for. -/
structure Batch (L : Leaf) (t bs mlt meq c leq : Nat) : Prop where
  lane : ∀ i, i < 8 → bs + i < L.n
  c_le : c ≤ 8
  full : mlt = 4294967295 ↔ c = 8
  zero : mlt = 0 ↔ c = 0
  lt : ∀ i, i < c → L.pfx (bs + i) < t
  hi : c < 8 → t ≤ L.pfx (bs + c)
  hi_ne : c < 8 → meq = 0 → t < L.pfx (bs + c)
  last : meq ≠ 0 → leq < 8 ∧ L.pfx (bs + leq) = t
  gt : meq ≠ 0 → leq < 7 → t < L.pfx (bs + (leq + 1))

theorem batch_facts {L : Leaf} (w : WF L) (t bs : Nat) (hbs : bs + 8 ≤ L.n)
    (mlt meq c leq : Nat) (hmlt : mlt = movemask (ltLanes L t bs))
    (hmeq : meq = movemask (eqLanes L t bs)) (hc : c = trailingOnes 32 mlt / 4)
    (hleq : leq = lastEqIdx meq) : Batch L t bs mlt meq c leq := by
  obtain ⟨a1, a2, ⟨a3, a4, a5⟩, _⟩ := lanes_facts (fun i => L.pfx (bs + i) < t) mlt
    (by simp only [hmlt, ltLanes, ltLane_eq])
  obtain ⟨_, e2, _, e4⟩ := lanes_facts (fun i => L.pfx (bs + i) = t) meq hmeq
  rw [← hc] at a1 a3 a4 a5
  rw [← hleq] at e4
  have mono : ∀ i j, i ≤ j → j < 8 → L.pfx (bs + i) ≤ L.pfx (bs + j) :=
    fun i j hij hj => pfx_mono w (by omega) (by omega)
  refine
    { lane := fun i hi => by omega
      c_le := a3
      full := a1
      lt := a4
      hi := fun h => Nat.le_of_not_lt (a5 h)
      zero := ⟨fun h => by rw [hc, h]; rfl, fun h => a2.2 fun i hi => ?_⟩
      hi_ne := fun h h0 => ?_
      last := fun h => ⟨(e4 h).1, (e4 h).2.1⟩
      gt := fun h h7 => ?_ }
  · -- lane 0 is not below the target, and the lanes are sorted
    have := a5 (by omega)
    have := mono c i (by omega) hi
    omega
  · have := a5 h
    have := e2.1 h0 c h
    omega
  · have := (e4 h).2.2 (leq + 1) (by omega) (by omega)
    have := mono leq (leq + 1) (by omega) (by omega)
    have := (e4 h).2.1
    omega

theorem avx2_inv {L : Leaf} (w : WF L) {k : List Nat} (hk : BytesOK k) :
    ∀ f l r, Bracket L k l r →
      Bracket L k (avx2Loop L (prefixOf k) f l r).1 (avx2Loop L (prefixOf k) f l r).2 := by
  intro f
  induction f with
  | zero => intro l r h; exact h
  | succ f ih =>
    intro l r h
    rw [avx2Loop]
    -- the masks and indices get names, and lose their values once `B` and `h1` say what is known
    -- of them: every later step then works on a small goal
    extract_lets bs mlt meq c l1 feq leq
    by_cases h8 : r - l < 8
    · rw [if_pos h8]; exact h
    rw [if_neg h8]
    have hb : l ≤ bs ∧ bs + 8 ≤ r := batchStart_bounds h8
    have hrn := h.rn
    by_cases hbn : bs + 8 > L.n
    · rw [if_pos hbn]; exact h
    rw [if_neg hbn]
    have B := batch_facts w (prefixOf k) bs (Nat.le_of_not_lt hbn) mlt meq c leq rfl rfl rfl rfl
    have hc := B.c_le
    have h1 : Bracket L k l1 r := by
      simp only [l1]
      split
      · exact (h.raisePfx w hk (m := bs + (c - 1)) (by omega) (B.lt _ (by omega))).widen
          (by omega) (Nat.le_refl _) hrn
      · exact h
    clear_value leq feq l1 c meq mlt bs
    by_cases hall : mlt = 4294967295
    · obtain rfl := B.full.1 hall
      rw [if_pos hall]
      exact ih _ _ (h.raisePfx w hk (B.lane 7 (by decide)) (B.lt 7 (by decide)))
    rw [if_neg hall]
    by_cases hnone : mlt = 0 ∧ meq = 0
    · obtain rfl := B.zero.1 hnone.1
      rw [if_pos hnone]
      exact ih _ _ (h.lowerPfx w hk (B.lane 0 (by decide)) (B.hi_ne (by decide) hnone.2))
    rw [if_neg hnone]
    have hc8 : c < 8 := Nat.lt_of_le_of_ne B.c_le (mt B.full.2 hall)
    by_cases heq0 : meq = 0
    · rw [if_pos heq0]
      exact (h1.lowerPfx w hk (B.lane c hc8) (B.hi_ne hc8 heq0)).widen (Nat.le_refl _) (by omega)
        (by omega)
    rw [if_neg heq0]
    -- `feq` only enters through `min`, which keeps the bound that `l1` already gives
    have hmin := Nat.min_le_left l1 (bs + feq)
    have hl8 := (B.last heq0).1
    by_cases h7 : leq + 1 < 8
    · rw [if_pos h7]
      exact (h1.lowerPfx w hk (B.lane _ h7) (B.gt heq0 (Nat.lt_of_succ_lt_succ h7))).widen hmin
        (Nat.le_refl _) (Nat.le_of_lt (B.lane _ h7))
    · rw [if_neg h7]
      exact h1.widen hmin (Nat.le_refl _) hrn

theorem narrowAvx2_bracket {L : Leaf} (w : WF L) {k : List Nat} (hk : BytesOK k) :
    Bracket L k (narrowAvx2 L (prefixOf k)).1 (narrowAvx2 L (prefixOf k)).2 := by
  unfold narrowAvx2
  split
  · exact Bracket.empty k ‹_›
  · exact avx2_inv w hk _ _ _ (Bracket.init L k)

theorem avx2Old_inv {L : Leaf} (w : WF L) {k : List Nat} (hk : BytesOK k) :
    ∀ f l r, Bracket L k l r → avx2OldHazard L (prefixOf k) f l r = 0 →
      Bracket L k (avx2OldLoop L (prefixOf k) f l r).1 (avx2OldLoop L (prefixOf k) f l r).2 := by
  intro f
  induction f with
  | zero => intro l r h _; exact h
  | succ f ih =>
    intro l r h hz
    rw [avx2OldLoop]
    rw [avx2OldHazard] at hz
    extract_lets bs mlt meq c l1 r1 feq leq
    extract_lets at hz
    by_cases h8 : r - l < 8
    · rw [if_pos h8]; exact h
    rw [if_neg h8] at hz ⊢
    have hb : l ≤ bs ∧ bs + 8 ≤ r := batchStart_bounds h8
    have hrn := h.rn
    by_cases hbn : bs + 8 > L.n
    · rw [if_pos hbn]; exact h
    rw [if_neg hbn] at hz ⊢
    have B := batch_facts w (prefixOf k) bs (Nat.le_of_not_lt hbn) mlt meq c leq rfl rfl rfl rfl
    clear_value leq feq c meq mlt bs
    by_cases hall : mlt = 4294967295
    · obtain rfl := B.full.1 hall
      rw [if_pos hall] at hz ⊢
      exact ih _ _ (h.raisePfx w hk (B.lane 7 (by decide)) (B.lt 7 (by decide))) hz
    rw [if_neg hall] at hz ⊢
    by_cases hnone : mlt = 0
    · obtain rfl := B.zero.1 hnone
      rw [if_pos hnone] at hz ⊢
      have : prefixOf k ≤ L.pfx bs := B.hi (by decide)
      split at hz
      · omega
      · exact ih _ _ (h.lowerPfx w hk (B.lane 0 (by decide)) (Nat.lt_of_le_of_ne this (Ne.symm ‹_›))) hz
    rw [if_neg hnone] at hz ⊢
    have hc8 : c < 8 := Nat.lt_of_le_of_ne B.c_le (mt B.full.2 hall)
    have hc0 : 0 < c := Nat.pos_of_ne_zero (mt B.zero.2 hnone)
    clear hall hnone -- each disequality left in the context doubles the work of `omega`
    simp only [l1, r1, if_pos hc0, Nat.min_eq_left (Nat.le_of_lt_succ hc8)]
    clear l1 r1
    have h1 := h.raisePfx w hk (B.lane (c - 1) (Nat.lt_of_le_of_lt (Nat.sub_le c 1) hc8))
      (B.lt _ (Nat.sub_lt hc0 Nat.one_pos))
    by_cases heq0 : meq = 0
    · rw [if_neg (not_not_intro heq0)]
      exact (h1.lowerPfx w hk (B.lane c hc8) (B.hi_ne hc8 heq0)).widen (by omega) (by omega) (by omega)
    rw [if_pos heq0]
    obtain ⟨hl8, hleq⟩ := B.last heq0
    have h2 : Bracket L k (bs + (c - 1) + 1) (bs + leq + 1) := by
      by_cases h7 : leq < 7
      · exact h1.lowerPfx w hk (B.lane _ (Nat.succ_lt_succ h7)) (B.gt heq0 h7)
      -- the run of equal prefixes reaches lane 7: it stops there, or the step is hazardous
      obtain rfl : leq = 7 := by omega
      by_cases hr : bs + 8 < r
      · have hn8 : L.pfx (bs + 8) ≠ prefixOf k := by
          intro he
          rw [if_pos ⟨hleq, hr, he⟩] at hz
          omega
        have hm := pfx_mono w (show bs + 7 ≤ bs + 8 by omega) (by omega)
        exact h1.lowerPfx w hk (by omega) (show prefixOf k < L.pfx (bs + 8) by omega)
      · exact h1.widen (Nat.le_refl _) (by omega) (by omega)
    clear hz heq0
    have hmin := Nat.min_le_left (bs + c - 1) (bs + feq)
    exact h2.widen (by omega) (Nat.le_max_right _ _) (Nat.max_le.2 ⟨by omega, by omega⟩)

theorem narrowAvx2Old_bracket {L : Leaf} (w : WF L) {k : List Nat} (hk : BytesOK k)
    (hz : hazardOld L (prefixOf k) = 0) :
    Bracket L k (narrowAvx2Old L (prefixOf k)).1 (narrowAvx2Old L (prefixOf k)).2 := by
  unfold narrowAvx2Old
  split
  · exact Bracket.empty k ‹_›
  · rw [hazardOld, if_neg ‹_›] at hz
    exact avx2Old_inv w hk _ _ _ (Bracket.init L k) hz

/-! ### fuel -/

/-- A loop on ranges that stops on ranges shorter than `c` and otherwise calls itself on strictly
shorter ranges only gives the same result for every fuel that covers the range: the induction
hypothesis rewrites the recursive calls whatever the branch they stand in. -/
theorem fuel_irrelevant_of_shrinking {α : Type} (loop : Nat → Nat → Nat → α) (c : Nat) (hc : 0 < c)
    (small : ∀ f l r, r - l < c → loop f l r = loop 0 l r)
    (step : ∀ f1 f2 l r, ¬ r - l < c →
      (∀ l' r', r' - l' < r - l → loop f1 l' r' = loop f2 l' r') →
      loop (f1 + 1) l r = loop (f2 + 1) l r) :
    ∀ f1 f2 l r, r - l ≤ f1 → r - l ≤ f2 → loop f1 l r = loop f2 l r := by
  intro f1
  induction f1 with
  | zero => intro f2 l r h1 _; rw [small f2 l r (by omega)]
  | succ f1 ih =>
    intro f2 l r h1 h2
    by_cases hs : r - l < c
    · rw [small _ l r hs, small f2 l r hs]
    · cases f2 with
      | zero => omega
      | succ f2 => exact step f1 f2 l r hs fun l' r' h => ih f2 l' r' (by omega) (by omega)

theorem scalarLoop_fuel (L : Leaf) (t : Nat) :
    ∀ f1 f2 l r, r - l ≤ f1 → r - l ≤ f2 → scalarLoop L t f1 l r = scalarLoop L t f2 l r := by
  refine fuel_irrelevant_of_shrinking _ 4 (by decide) (fun f l r h => by cases f <;> simp [scalarLoop, h])
    fun f1 f2 l r h4 ih => ?_
  simp only [scalarLoop, ih (l + (r - l) / 2 + 1) r (by omega), ih l (l + (r - l) / 2) (by omega)]

theorem avx2Loop_fuel (L : Leaf) (t : Nat) :
    ∀ f1 f2 l r, r - l ≤ f1 → r - l ≤ f2 → avx2Loop L t f1 l r = avx2Loop L t f2 l r := by
  refine fuel_irrelevant_of_shrinking _ 8 (by decide) (fun f l r h => by cases f <;> simp [avx2Loop, h])
    fun f1 f2 l r h8 ih => ?_
  obtain ⟨hb1, hb2⟩ := batchStart_bounds h8
  simp only [avx2Loop, ih (batchStart l r + 8) r (by omega), ih l (batchStart l r) (by omega)]

theorem avx2OldLoop_fuel (L : Leaf) (t : Nat) :
    ∀ f1 f2 l r, r - l ≤ f1 → r - l ≤ f2 → avx2OldLoop L t f1 l r = avx2OldLoop L t f2 l r := by
  refine fuel_irrelevant_of_shrinking _ 8 (by decide) (fun f l r h => by cases f <;> simp [avx2OldLoop, h])
    fun f1 f2 l r h8 ih => ?_
  obtain ⟨hb1, hb2⟩ := batchStart_bounds h8
  simp only [avx2OldLoop, ih (batchStart l r + 8) r (by omega), ih l (batchStart l r) (by omega)]

theorem finalLoop_fuel (L : Leaf) (k : List Nat) (t : Nat) :
    ∀ f1 f2 l r, r - l < f1 → r - l < f2 → finalLoop L k t f1 l r = finalLoop L k t f2 l r := by
  intro f1 f2 l r h1 h2
  refine fuel_irrelevant_of_shrinking (finalLoop L k t) 1 (by decide)
    (fun f l r h => by cases f <;> simp [finalLoop, show ¬ l < r by omega]) (fun f1 f2 l r hlr ih => ?_) f1 f2 l r
    (by omega) (by omega)
  simp only [finalLoop, ih (l + (r - l) / 2 + 1) r (by omega), ih l (l + (r - l) / 2) (by omega)]
end TurVerif.C30
