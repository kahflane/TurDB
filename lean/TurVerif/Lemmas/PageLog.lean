import TurVerif.Model.PageLog
/-!
The page store + WAL model (C04).  A replay shows on each page its last frame (`rd_replay`); in a
coherent state (`Coh`) that frame is what the table file already holds unless the page is dirty, so
the logical image and the view agree (`logical_eq_view`).  Every safe step keeps coherence and
shows readers the effect of the writes only (`coh_step`, `view_step`, `view_run`).  `Safe P ops Q`
is the triple used to show that a history built from pieces is safe.
-/
namespace TurVerif.PageLog

theorem rd_wr (t : List (Key × Nat)) (k q : Key) (v : Nat) :
    rd (wr t k v) q = if k = q then v else rd t q := rfl

theorem lastFrame_cons (a : Key) (v : Nat) (w : List (Key × Nat)) (k : Key) :
    lastFrame ((a, v) :: w) k = (lastFrame w k).or (if a = k then some v else none) := by
  rw [lastFrame]; cases lastFrame w k <;> rfl

theorem rd_replay (w t : List (Key × Nat)) (k : Key) :
    rd (replay t w) k = (lastFrame w k).getD (rd t k) := by
  fun_induction replay t w with
  | case1 t => rfl
  | case2 t a v rest ih =>
    rw [ih, lastFrame_cons, rd_wr]
    cases lastFrame rest k with
    | some x => rfl
    | none => show _ = (if a = k then some v else none).getD _; split <;> rfl

theorem lastFrame_append (w1 w2 : List (Key × Nat)) (k : Key) :
    lastFrame (w1 ++ w2) k = (lastFrame w2 k).or (lastFrame w1 k) := by
  induction w1 with
  | nil => exact (Option.or_none ..).symm
  | cons f rest ih =>
    obtain ⟨a, v⟩ := f
    rw [List.cons_append, lastFrame_cons, lastFrame_cons, ih, Option.or_assoc]

theorem lastFrame_framesOf (t : List (Key × Nat)) (ks : List Key) (k : Key) :
    lastFrame (framesOf t ks) k = if k ∈ ks then some (rd t k) else none := by
  induction ks with
  | nil => rfl
  | cons a rest ih =>
    show lastFrame ((a, rd t a) :: framesOf t rest) k = _
    rw [lastFrame_cons, ih]
    by_cases hr : k ∈ rest
    · rw [if_pos hr, if_pos (List.mem_cons_of_mem _ hr)]; rfl
    · rw [if_neg hr, Option.none_or]
      by_cases e : a = k
      · subst e; rw [if_pos rfl, if_pos List.mem_cons_self]
      · rw [if_neg e, if_neg fun h => (List.mem_cons.mp h).elim (e ·.symm) hr]

/-- coherence: the newest frame of every page that is not dirty equals the page in the table file -/
def Coh (s : St) : Prop := ∀ k v, lastFrame s.wal k = some v → k ∉ s.dirty → rd s.table k = v

theorem coh_of_wal_nil {s : St} (h : s.wal = []) : Coh s := by
  intro k v hv; rw [h] at hv; cases hv

/-- In a coherent state a replay of the log changes no page, except a dirty one that has an older
frame. -/
theorem logical_eq_view {s : St} (h : Coh s) {k : Key} (hk : k ∈ s.dirty → noFrame s k = true) :
    logical s k = view s k := by
  show rd (replay s.table s.wal) k = rd s.table k
  rw [rd_replay]
  cases hf : lastFrame s.wal k with
  | none => rfl
  | some v =>
    refine (h k v hf fun hd => ?_).symm
    have := hk hd
    rw [noFrame, hf] at this; cases this

theorem mem_markDirty (d : List Key) (k q : Key) : q ∈ markDirty d k ↔ q = k ∨ q ∈ d := by
  unfold markDirty; split
  · next h => exact ⟨.inr, fun h' => h'.elim (· ▸ List.contains_iff_mem.mp h) id⟩
  · exact List.mem_cons

/-- a flushed page gets its current image as newest frame, whether it was dirty or not -/
theorem coh_flushKeys {s : St} (h : Coh s) (ks : List Key) : Coh (flushKeys s ks) := by
  intro k v hv hk
  have hv : lastFrame (s.wal ++ framesOf s.table ks) k = some v := hv
  rw [lastFrame_append, lastFrame_framesOf] at hv
  by_cases hm : k ∈ ks
  · rw [if_pos hm] at hv; exact Option.some.inj hv
  · rw [if_neg hm] at hv
    refine h k v hv fun hd => hk (List.mem_filter.mpr ⟨hd, ?_⟩)
    rw [Bool.not_eq_true', List.contains_eq_mem, decide_eq_false hm]

theorem view_flushKeys (s : St) (ks : List Key) : (flushKeys s ks).table = s.table := rfl

theorem coh_flushFile {s : St} (h : Coh s) (f : Nat) : Coh (flushFile s f) := by
  unfold flushFile; split
  · exact coh_flushKeys h _
  · exact h

theorem table_flushFile (s : St) (f : Nat) : (flushFile s f).table = s.table := by
  unfold flushFile; split <;> rfl

theorem walOn_flushFile (s : St) (f : Nat) : (flushFile s f).walOn = s.walOn := by
  unfold flushFile; split <;> rfl

theorem dirty_flushAll (s : St) : (flushAll s).dirty = [] :=
  List.filter_eq_nil_iff.mpr fun a ha => by rw [List.contains_iff_mem.mpr ha]; exact Bool.false_ne_true

theorem dirty_flushFile {s : St} (hon : s.walOn = true) {f : Nat} (h : ∀ q ∈ s.dirty, q.file = f) :
    (flushFile s f).dirty = [] := by
  have e : s.dirty.filter (fun k => k.file == f) = s.dirty :=
    List.filter_eq_self.mpr fun q hq => beq_iff_eq.mpr (h q hq)
  unfold flushFile; rw [if_pos hon, e]; exact dirty_flushAll s

theorem coh_ckptShared (s : St) : Coh (ckptShared s) := coh_of_wal_nil rfl

theorem coh_recover (s : St) : Coh (recover s) := coh_of_wal_nil rfl

/-- a replaying checkpoint does not change what a reader sees, provided no dirty page has an older
frame -/
theorem view_ckptShared {s : St} (h : Coh s) (hd : s.dirty.all (noFrame s) = true) (k : Key) :
    view (ckptShared s) k = view s k :=
  logical_eq_view h (List.all_eq_true.mp hd k)

theorem view_recover {s : St} (h : Coh s) (hd : s.dirty = []) (k : Key) :
    view (recover s) k = view s k :=
  logical_eq_view h fun hk => by rw [hd] at hk; cases hk

theorem coh_ckptDb {s : St} (h : Coh s) : Coh (ckptDb s) := by
  fun_cases ckptDb s
  · exact h
  · exact coh_flushKeys h _
  · exact coh_of_wal_nil rfl

theorem table_ckptDb (s : St) : (ckptDb s).table = s.table := by
  fun_cases ckptDb s <;> rfl

theorem walOn_ckptDb (s : St) : (ckptDb s).walOn = s.walOn := by
  fun_cases ckptDb s <;> rfl

theorem dirty_ckptDb (s : St) : (ckptDb s).dirty = [] := by
  fun_cases ckptDb s
  · next h => exact List.isEmpty_iff.mp (Bool.and_eq_true_iff.mp h).2
  · exact dirty_flushAll s
  · exact dirty_flushAll s

theorem ckptDb_of_clean {s : St} (hd : s.dirty = []) (ht : s.touched = false) : ckptDb s = s := by
  unfold ckptDb; rw [if_pos]; rw [hd, ht]; rfl

theorem commit_of_off {s : St} (h : s.walOn = false) : commit s = s := by
  unfold commit; rw [if_neg (ne_true_of_eq_false h)]

theorem coh_commit {s : St} (h : Coh s) : Coh (commit s) := by
  fun_cases commit s
  · exact coh_ckptShared _
  · exact coh_flushKeys h _
  · exact h

theorem view_commit {s : St} (h : Coh s) (k : Key) : view (commit s) k = view s k := by
  fun_cases commit s
  · refine view_ckptShared (coh_flushKeys h _) ?_ k
    show (flushAll s).dirty.all _ = true
    rw [dirty_flushAll]; rfl
  · rfl
  · rfl

theorem walOn_commit (s : St) : (commit s).walOn = s.walOn := by
  fun_cases commit s <;> rfl

theorem dirty_commit {s : St} (h : s.walOn = true) : (commit s).dirty = [] := by
  fun_cases commit s
  · exact dirty_flushAll s
  · exact dirty_flushAll s
  · next hn => exact absurd h hn

theorem coh_step {s : St} (h : Coh s) (op : Op) (hs : safeOp s op = true) : Coh (step s op) := by
  cases op with
  | write k v =>
    -- a page `q` that `Coh` speaks of is not the one written: with the WAL on that one is dirty,
    -- with the WAL off it has no frame (`safeOp`)
    intro q x (hx : lastFrame s.wal q = some x)
      (hq : q ∉ (if s.walOn = true then markDirty s.dirty k else s.dirty))
    show (if k = q then v else rd s.table q) = x
    by_cases hon : s.walOn = true
    · rw [if_pos hon, mem_markDirty, not_or] at hq
      rw [if_neg (Ne.symm hq.1)]; exact h q x hx hq.2
    · rw [if_neg hon] at hq
      have hnf : noFrame s k = true := (Bool.or_eq_true_iff.mp hs).resolve_left hon
      rw [if_neg fun e => by rw [noFrame, e, hx] at hnf; cases hnf]
      exact h q x hx hq
  | flush f => exact coh_flushFile h f
  | setWal b => exact h
  | setThreshold n => exact h
  | ckptShared => exact coh_ckptShared s
  | ckptDb => exact coh_ckptDb h
  | commit => exact coh_commit h
  | reopen => exact coh_recover _
  | dropReopen => exact coh_recover _

theorem view_step {s : St} (h : Coh s) (op : Op) (hs : safeOp s op = true) (k : Key) :
    view (step s op) k = rd (specStep s.table op) k := by
  cases op with
  | write a v => rfl
  | flush f => exact congrArg (rd · k) (table_flushFile s f)
  | setWal b => rfl
  | setThreshold n => rfl
  | ckptShared => exact view_ckptShared h hs k
  | ckptDb => exact congrArg (rd · k) (table_ckptDb s)
  | commit => exact view_commit h k
  | reopen =>
    exact (view_recover (coh_ckptDb h) (dirty_ckptDb s) k).trans (congrArg (rd · k) (table_ckptDb s))
  | dropReopen => exact view_ckptShared h hs k

theorem rd_specStep_congr {t1 t2 : List (Key × Nat)} (h : ∀ k, rd t1 k = rd t2 k) (op : Op) (k : Key) :
    rd (specStep t1 op) k = rd (specStep t2 op) k := by
  fun_cases specStep t1 op with
  | case1 a v => show (if a = k then v else rd t1 k) = if a = k then v else rd t2 k; rw [h]
  | case2 op hne => rw [specStep.eq_2 _ _ hne]; exact h k

theorem view_run (ops : List Op) (s : St) (t : List (Key × Nat)) (hc : Coh s)
    (hs : safeRun s ops = true) (ht : ∀ k, view s k = rd t k) :
    ∀ k, view (run s ops) k = rd (specRun t ops) k := by
  fun_induction run s ops generalizing t with
  | case1 s => exact ht
  | case2 s op rest ih =>
    obtain ⟨hs1, hs2⟩ := Bool.and_eq_true_iff.mp hs
    exact ih (specStep t op) (coh_step hc op hs1) hs2 fun q =>
      (view_step hc op hs1 q).trans (rd_specStep_congr ht op q)

theorem coh_run (ops : List Op) (s : St) (hc : Coh s) (hs : safeRun s ops = true) :
    Coh (run s ops) := by
  fun_induction run s ops with
  | case1 s => exact hc
  | case2 s op rest ih =>
    obtain ⟨hs1, hs2⟩ := Bool.and_eq_true_iff.mp hs
    exact ih (coh_step hc op hs1) hs2

theorem run_append (a b : List Op) : ∀ s, run s (a ++ b) = run (run s a) b := by
  induction a with
  | nil => intro s; rfl
  | cons op rest ih => intro s; exact ih (step s op)

theorem safeRun_append (a b : List Op) :
    ∀ s, safeRun s (a ++ b) = (safeRun s a && safeRun (run s a) b) := by
  induction a with
  | nil => intro s; rfl
  | cons op rest ih =>
    intro s
    show (safeOp s op && safeRun (step s op) (rest ++ b)) = _
    rw [ih, ← Bool.and_assoc]; rfl

def Safe (P : St → Prop) (ops : List Op) (Q : St → Prop) : Prop :=
  ∀ s, P s → safeRun s ops = true ∧ Q (run s ops)

theorem Safe.nil {P : St → Prop} : Safe P [] P := fun _ h => ⟨rfl, h⟩

theorem Safe.single {P Q : St → Prop} {op : Op}
    (h : ∀ s, P s → safeOp s op = true ∧ Q (step s op)) : Safe P [op] Q :=
  fun s hs => ⟨congrArg (· && true) (h s hs).1, (h s hs).2⟩

theorem Safe.append {P R Q : St → Prop} {a b : List Op} (h1 : Safe P a R) (h2 : Safe R b Q) :
    Safe P (a ++ b) Q := fun s hs => by
  obtain ⟨a1, b1⟩ := h1 s hs
  obtain ⟨a2, b2⟩ := h2 _ b1
  rw [safeRun_append, run_append, a1, a2]; exact ⟨rfl, b2⟩

theorem Safe.flatMap {α : Type} {P : St → Prop} {f : α → List Op} (h : ∀ a, Safe P (f a) P)
    (l : List α) : Safe P (l.flatMap f) P := by
  induction l with
  | nil => exact Safe.nil
  | cons a l ih => rw [List.flatMap_cons]; exact (h a).append ih

end TurVerif.PageLog
