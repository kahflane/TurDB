import TurVerif.Model.SqlMaint
/-! What the maintenance operations of `TurVerif.SqlMaint` do to the reference database: nothing,
except a reopen inside a transaction, which is a ROLLBACK. -/
namespace TurVerif.SqlMaint
open TurVerif.SqlDb

theorem maintStep_not_reopen (s : DbState) (m : Maint) (h : m ≠ .reopen) : maintStep s m = s := by
  cases m with
  | reopen => exact absurd rfl h
  | _ => rfl

theorem maintStep_no_txn (s : DbState) (m : Maint) (h : s.txn = []) : maintStep s m = s := by
  cases m <;> simp [maintStep, h]

/-- reopen with an open transaction = ROLLBACK -/
theorem maintStep_reopen_in_txn (s : DbState) (h : s.txn ≠ []) :
    maintStep s .reopen = (step s .rollback).1 := by
  unfold maintStep step
  cases hg : s.txn.getLast? with
  | none => exact absurd (List.getLast?_eq_none_iff.mp hg) h
  | some e => rfl

/-- histories without reopen: maintenance and configuration are invisible -/
theorem runItems_eq_run (s : DbState) (items : List Item) (h : ∀ it ∈ items, it.isReopen = false) :
    runItems s items = run s (stmtsOf items) := by
  fun_induction runItems s items with
  | case1 s => rfl
  | case2 s st rest s1 r hs s2 rs hr ih =>
    rw [stmtsOf, run, hs]; dsimp only
    rw [← ih fun x hx => h x (List.mem_cons_of_mem _ hx), hr]
  | case3 s m rest ih =>
    have hm : m ≠ .reopen := fun e => Bool.noConfusion (e ▸ h _ List.mem_cons_self)
    rw [maintStep_not_reopen s m hm] at ih ⊢
    exact ih fun x hx => h x (List.mem_cons_of_mem _ hx)

end TurVerif.SqlMaint
