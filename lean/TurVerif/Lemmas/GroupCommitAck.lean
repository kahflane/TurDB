import TurVerif.Lemmas.GroupCommitInv
/-!
C37, acknowledgement side:
* which committers can be told "success" without being in the log (only self-elected leaders —
  threads that left the wait loop through the `!flush_in_progress && should_flush` branch — whose
  commit is held by ANOTHER thread): invariant `InvE`, whose ghost set is the self-elections of the
  schedule so far;
* a failed batch reaches every member that is still inside the wait loop (`Told`, which every step preserves).
-/
namespace TurVerif.GroupCommit

/-- the step of `tid` in `s` is a self-election: `tid` is at the head of the wait loop, its commit
is not completed, no flush is in progress and something is pending — it sets `flush_in_progress`
and returns `Ok(())` from `submit_and_wait` WITHOUT its commit having been completed -/
def electsAt (s : State) (tid : Nat) : Bool :=
  decide (pcAt s tid = some .waitLock) && !comp s tid && !s.flushInProgress && !s.pending.isEmpty

/-- past the wait loop with `Ok(())`: about to `take_pending`, owning a batch, or returned with
success -/
def past : Pc → Bool
  | .take | .write _ | .mark _ _ | .clear _ _ | .done true => true
  | _ => false

/-- a committer that is past the wait loop is in the log or elected itself (`g`: the set of
self-elected committers so far) -/
def InvE (s : State) (g : Nat → Prop) : Prop :=
  ∀ a r, pcAt s a = some r → past r = true → a ∈ s.log ∨ g a

section
variable {s s' : State} {tid : Nat} {p p' : Pc} {q l : List Nat} {f : Bool}

/-- a thread gets past the wait loop by completion without error or by electing itself -/
theorem Next.past (hn : Next s tid p p' q f l) (hc : pcAt s tid = some p) (h : past p' = true) :
    past p = true ∨ (comp s tid = true ∧ err s tid = false) ∨ electsAt s tid = true := by
  cases hn <;> simp_all [GroupCommit.past, electsAt]

theorem invE_eff {g : Nat → Prop} (e : Eff s tid s' p p' q f l) (hL : InvL s) (h : InvE s g) :
    InvE s' (fun a => g a ∨ (a = tid ∧ electsAt s tid = true)) := by
  intro a r ha hr
  have old : a ∈ s.log ∨ g a → a ∈ s'.log ∨ g a ∨ (a = tid ∧ electsAt s tid = true) :=
    Or.imp e.log_keep .inl
  rcases e.origin_or_woken ha with ⟨rfl, rfl⟩ | ⟨-, ⟨ha, -⟩ | ⟨-, rfl⟩⟩
  · rcases e.next.past e.cur hr with hp | ⟨hc, he⟩ | hel
    · exact old (h a p e.cur hp)
    · exact .inl (e.log_keep (hL a hc he))
    · exact .inr (.inr ⟨rfl, hel⟩)
  · exact old (h a r ha hr)
  · -- notified: only a completed commit without error gets past the loop
    refine .inl (e.log_keep (hL a ?_ ?_)) <;> cases hc : comp s a <;> cases he : err s a <;>
      simp_all [wokenPc, GroupCommit.past]

end

theorem InvE.mono {s : State} {g g' : Nat → Prop} (h : InvE s g) (hg : ∀ a, g a → g' a) :
    InvE s g' :=
  fun a r ha hr => (h a r ha hr).imp_right (hg a)

/-- along a schedule the ghost set grows by the committers whose step was a self-election -/
theorem invE_run {s : State} (i : Inv s) (sched : List Nat) (g : Nat → Prop) (h : InvE s g) :
    InvE (run s sched) (fun a => g a ∨
      ∃ pre post, sched = pre ++ a :: post ∧ electsAt (run s pre) a = true) := by
  induction sched generalizing s g with
  | nil => exact h.mono fun _ => .inl
  | cons tid rest ih =>
    have h1 : Inv ((step s tid).getD s) ∧
        InvE ((step s tid).getD s) (fun a => g a ∨ (a = tid ∧ electsAt s tid = true)) := by
      cases hs : step s tid with
      | none => exact ⟨i, h.mono fun _ => .inl⟩
      | some s' =>
        have ⟨_, _, _, _, _, e⟩ := step_eff hs
        exact ⟨inv_step hs i, invE_eff e i.l h⟩
    refine (ih h1.1 _ h1.2).mono ?_
    rintro a ((h | ⟨rfl, h⟩) | ⟨pre, post, rfl, h⟩)
    · exact .inl h
    · exact .inr ⟨[], rest, rfl, h⟩
    · exact .inr ⟨tid :: pre, post, rfl, h⟩

theorem invE_init (fails : List Bool) : InvE (init fails) (fun _ => False) := by
  intro a r ha hr
  cases pcAt_init ha
  cases hr

/-- a committer that was told "success" and is not in the log elected itself leader -/
theorem ack_unlogged_elected (fails : List Bool) (sched : List Nat) (a : Nat)
    (hd : pcAt (run (init fails) sched) a = some (.done true))
    (hl : a ∉ (run (init fails) sched).log) :
    ∃ pre post, sched = pre ++ a :: post ∧ electsAt (run (init fails) pre) a = true := by
  have := invE_run (inv_init fails) sched _ (invE_init fails) a _ hd rfl
  rcases this with h | h | h
  · exact (hl h).elim
  · exact h.elim
  · exact h

/-- … and its commit is held, unwritten, by another thread, or was failed -/
theorem ack_unlogged_held {s : State} (i : Inv s) {a : Nat}
    (hd : pcAt s a = some (.done true)) (hl : a ∉ s.log) :
    (∃ j b, j ≠ a ∧ pcAt s j = some (.write b) ∧ a ∈ b) ∨
    (∃ j b, j ≠ a ∧ pcAt s j = some (.mark b false) ∧ a ∈ b) ∨ err s a = true := by
  rcases i.life a _ hd nofun with h | ⟨j, b, hj, hb⟩ | ⟨j, b, hj, hb⟩ | h | h
  · rcases i.g a h with h | h | h <;> cases hd.symm.trans h
  · exact .inl ⟨j, b, (by rintro rfl; cases hd.symm.trans hj), hj, hb⟩
  · exact .inr (.inl ⟨j, b, (by rintro rfl; cases hd.symm.trans hj), hj, hb⟩)
  · exact (hl h).elim
  · exact .inr (.inr h)

/-- commit `a` has been marked failed and its committer is still inside the wait loop (or is the
owner, about to return the error, or has returned it) -/
def Told (s : State) (a : Nat) : Prop :=
  comp s a = true ∧ err s a = true ∧
  (pcAt s a = some .waitLock ∨ pcAt s a = some .condWait ∨
    (∃ b, pcAt s a = some (.clear b false)) ∨ pcAt s a = some (.done false))

theorem told_eff {s s' : State} {tid a : Nat} {p p' : Pc} {q l : List Nat} {f : Bool}
    (e : Eff s tid s' p p' q f l) (h : Told s a) : Told s' a := by
  obtain ⟨hc, he, hpc⟩ := h
  refine ⟨(e.comp a).mpr (.inl hc), (e.err a).mpr (.inl he), ?_⟩
  by_cases hat : a = tid
  · subst hat
    have := e.cur
    rw [e.self]
    cases e.next <;> simp_all
  · rcases hpc with h | h | ⟨b, h⟩ | h <;> rcases e.other h hat with h' | ⟨⟨⟩, h'⟩
    · exact .inl h'
    · exact .inr (.inl h')
    · exact .inr (.inr (.inr (by simpa [wokenPc, hc, he] using h')))
    · exact .inr (.inr (.inl ⟨b, h'⟩))
    · exact .inr (.inr (.inr h'))

theorem told_run {s : State} {a : Nat} (h : Told s a) (sched : List Nat) : Told (run s sched) a :=
  run_invariant told_eff sched h

/-- the `mark` step of a failed batch: every member that is inside the wait loop, and the owner
itself, is `Told` -/
theorem told_of_mark {s s' : State} {tid : Nat} {b : List Nat} {a : Nat} (hLen : Len s)
    (hs : step s tid = some s') (hm : pcAt s tid = some (.mark b false)) (ha : a ∈ b)
    (hw : pcAt s a = some .waitLock ∨ pcAt s a = some .condWait ∨ a = tid) : Told s' a := by
  have ⟨p, _, _, _, _, e⟩ := step_eff hs
  cases Option.some.inj (e.cur.symm.trans hm)
  obtain ⟨r, hr⟩ : ∃ r, pcAt s a = some r := by
    rcases hw with h | h | rfl <;> exact ⟨_, by assumption⟩
  have hf := flags_of_mark e hLen hr ha rfl
  refine ⟨hf.1, hf.2 rfl, ?_⟩
  by_cases hat : a = tid
  · subst hat
    cases e.next
    exact .inr (.inr (.inl ⟨b, e.self⟩))
  · rcases hw with h | h | h
    · exact .inl (e.keep h hat nofun)
    · exact .inr (.inl (e.keep h hat fun _ => rfl))
    · exact (hat h).elim

end TurVerif.GroupCommit
