import TurVerif.Model.Lru
/-!
The open-file LRU (C42).  The association list is treated as a finite map through `mapGet` and
`keys`.  Each cache operation gets its equations, one per branch of its definition (`touch_of_mem`,
`get_hit`, `popLru_of_inv`, `insert_of_has` / `_full` / `_room`, `fetch_hit`, `fetch_miss`), and the
representation invariant `Inv` is carried through them.
-/
namespace TurVerif.Lru
variable {V : Type}

def keys (m : List (Nat × V)) : List Nat := m.map (·.1)

theorem mapGet_cons (a : Nat) (v : V) (rest : List (Nat × V)) (k : Nat) :
    mapGet ((a, v) :: rest) k = if a = k then some v else mapGet rest k := rfl

theorem mapGet_isSome_iff (m : List (Nat × V)) (k : Nat) : (mapGet m k).isSome ↔ k ∈ keys m := by
  fun_induction mapGet m k with
  | case1 => exact ⟨nofun, nofun⟩
  | case2 v rest => exact ⟨fun _ => List.mem_cons_self, fun _ => rfl⟩
  | case3 k' v rest h ih =>
    exact ih.trans ⟨List.mem_cons_of_mem _, fun h' => (List.mem_cons.mp h').resolve_left (Ne.symm h)⟩

theorem mapRemove_cons (a : Nat) (v : V) (rest : List (Nat × V)) (k : Nat) :
    mapRemove ((a, v) :: rest) k =
      if a = k then mapRemove rest k else (a, v) :: mapRemove rest k := by
  simp only [mapRemove, List.filter_cons, Bool.not_eq_true', beq_eq_false_iff_ne, ne_eq, ite_not]

theorem mapGet_remove (m : List (Nat × V)) (k k' : Nat) :
    mapGet (mapRemove m k) k' = if k' = k then none else mapGet m k' := by
  induction m with
  | nil => exact (ite_self _).symm
  | cons e rest ih =>
    obtain ⟨a, v⟩ := e
    rw [mapRemove_cons, mapGet_cons]
    by_cases ha : a = k
    · rw [if_pos ha, ih]
      by_cases hk : k' = k
      · rw [if_pos hk, if_pos hk]
      · rw [if_neg hk, if_neg hk, if_neg (fun h => hk (h.symm.trans ha))]
    · rw [if_neg ha, mapGet_cons, ih]
      by_cases hk : k' = k
      · rw [if_pos hk, if_pos hk, if_neg (fun h => ha (h.trans hk))]
      · rw [if_neg hk, if_neg hk]

theorem mapGet_remove_some {m : List (Nat × V)} {k k' : Nat} {v : V}
    (h : mapGet (mapRemove m k) k' = some v) : mapGet m k' = some v := by
  rw [mapGet_remove] at h; split at h
  · cases h
  · exact h

theorem mapGet_insert (m : List (Nat × V)) (k k' : Nat) (v : V) :
    mapGet (mapInsert m k v) k' = if k' = k then some v else mapGet m k' := by
  unfold mapInsert; rw [mapGet_cons, mapGet_remove]
  by_cases h : k' = k
  · subst h; rw [if_pos rfl, if_pos rfl]
  · rw [if_neg (Ne.symm h), if_neg h, if_neg h]

theorem keys_remove (m : List (Nat × V)) (k : Nat) :
    keys (mapRemove m k) = (keys m).filter (fun x => x != k) := by
  unfold keys mapRemove; rw [List.filter_map]; rfl

theorem keys_remove_erase (m : List (Nat × V)) (k : Nat) (hn : (keys m).Nodup) :
    keys (mapRemove m k) = (keys m).erase k := by
  rw [keys_remove, List.Nodup.erase_eq_filter hn]

theorem keys_insert (m : List (Nat × V)) (k : Nat) (v : V) :
    keys (mapInsert m k v) = k :: keys (mapRemove m k) := rfl

/-- the representation invariant of `LruFileCache`: `order` lists every key of the map once -/
structure Inv (c : Lru V) : Prop where
  nodup : c.order.Nodup
  perm : (keys c.map).Perm c.order

theorem Inv.keysNodup {c : Lru V} (h : Inv c) : (keys c.map).Nodup :=
  (h.perm.nodup_iff).mpr h.nodup

theorem Inv.has_iff {c : Lru V} (h : Inv c) (k : Nat) : mapHas c.map k = true ↔ k ∈ c.order :=
  (mapGet_isSome_iff _ _).trans h.perm.mem_iff

theorem Inv.len_eq {c : Lru V} (h : Inv c) : len c = c.order.length :=
  (List.length_map _).symm.trans h.perm.length_eq

theorem inv_new (cap : Nat) : Inv (new cap : Lru V) := ⟨.nil, .nil⟩

theorem touch_of_mem {c : Lru V} {k : Nat} (h : k ∈ c.order) :
    touch c k = { c with order := c.order.erase k ++ [k] } :=
  if_pos (List.contains_iff_mem.mpr h)

theorem touch_of_not_mem {c : Lru V} {k : Nat} (h : k ∉ c.order) : touch c k = c :=
  if_neg (mt List.contains_iff_mem.mp h)

theorem touch_map (c : Lru V) (k : Nat) : (touch c k).map = c.map := by
  fun_cases touch c k <;> rfl

theorem touch_cap (c : Lru V) (k : Nat) : (touch c k).cap = c.cap := by
  fun_cases touch c k <;> rfl

theorem touch_order_perm (c : Lru V) (k : Nat) : (touch c k).order.Perm c.order := by
  by_cases h : k ∈ c.order
  · rw [touch_of_mem h]
    exact (List.perm_append_singleton ..).trans (List.perm_cons_erase h).symm
  · rw [touch_of_not_mem h]

theorem touch_getLast? {c : Lru V} {k : Nat} (h : k ∈ c.order) :
    (touch c k).order.getLast? = some k := by
  rw [touch_of_mem h]; exact List.getLast?_concat ..

theorem inv_touch {c : Lru V} (h : Inv c) (k : Nat) : Inv (touch c k) :=
  ⟨(touch_order_perm c k).nodup_iff.mpr h.nodup,
    (touch_map c k ▸ h.perm).trans (touch_order_perm c k).symm⟩

theorem get_hit {c : Lru V} {k : Nat} {v : V} (h : mapGet c.map k = some v) :
    get c k = (touch c k, some v) := by
  have hh : mapHas c.map k = true := congrArg Option.isSome h
  unfold get; rw [if_pos hh]
  show (touch c k, mapGet (touch c k).map k) = _
  rw [touch_map, h]

theorem get_miss {c : Lru V} {k : Nat} (h : mapGet c.map k = none) : get c k = (c, none) := by
  have hh : mapHas c.map k = false := congrArg Option.isSome h
  unfold get; rw [if_neg (ne_true_of_eq_false hh)]

theorem inv_remove {c : Lru V} (h : Inv c) (k : Nat) : Inv (remove c k).1 :=
  ⟨h.nodup.erase k, keys_remove_erase _ _ h.keysNodup ▸ h.perm.erase k⟩

theorem popLru_cap (c : Lru V) : (popLru c).1.cap = c.cap := by
  fun_cases popLru c <;> rfl

theorem popLru_order (c : Lru V) : (popLru c).1.order = c.order.tail := by
  fun_cases popLru c with
  | case1 ho => rw [ho]; rfl
  | case2 a rest ho => rw [ho]; rfl
  | case3 a rest ho => rw [ho]; rfl

theorem popLru_map_sub (c : Lru V) {k : Nat} {v : V} :
    mapGet (popLru c).1.map k = some v → mapGet c.map k = some v := by
  fun_cases popLru c
  · exact id
  · exact id
  · exact mapGet_remove_some

/-- Under the invariant the head of `order` is bound in the map, so the `?` in `pop_lru` never
fires and the head is evicted. -/
theorem popLru_of_inv {c : Lru V} (h : Inv c) {a : Nat} {rest : List Nat} (ho : c.order = a :: rest) :
    ∃ w, mapGet c.map a = some w ∧
      popLru c = ({ c with order := rest, map := mapRemove c.map a }, some (a, w)) := by
  have hs : mapHas c.map a = true := (h.has_iff a).mpr (ho ▸ List.mem_cons_self)
  obtain ⟨w, hw⟩ := Option.isSome_iff_exists.mp hs
  refine ⟨w, hw, ?_⟩
  unfold popLru; rw [ho]; simp only [hw]

theorem inv_popLru {c : Lru V} (h : Inv c) : Inv (popLru c).1 := by
  cases ho : c.order with
  | nil => unfold popLru; rw [ho]; exact h
  | cons a rest =>
    -- evicting the head is `remove` of that key
    obtain ⟨w, -, e⟩ := popLru_of_inv h ho
    have := inv_remove h a
    rw [remove, ho, List.erase_cons_head] at this
    rw [e]; exact this

/-- the absent-key tail of `insert`: `order.push(k); map.insert(k, v)` -/
def push (c : Lru V) (k : Nat) (v : V) : Lru V :=
  { c with order := c.order ++ [k], map := mapInsert c.map k v }

theorem insert_of_has {c : Lru V} {k : Nat} (h : mapHas c.map k = true) (v : V) :
    insert c k v = ({ touch c k with map := mapInsert c.map k v }, none) := by
  unfold insert; rw [if_pos h]
  show ({ touch c k with map := mapInsert (touch c k).map k v }, _) = _
  rw [touch_map]

theorem insert_of_full {c : Lru V} {k : Nat} (h : mapHas c.map k = false)
    (hf : c.order.length ≥ c.cap) (v : V) :
    insert c k v = (push (popLru c).1 k v, (popLru c).2) := by
  unfold insert; rw [if_neg (ne_true_of_eq_false h), if_pos hf]; rfl

theorem insert_of_room {c : Lru V} {k : Nat} (h : mapHas c.map k = false)
    (hr : c.order.length < c.cap) (v : V) : insert c k v = (push c k v, none) := by
  unfold insert; rw [if_neg (ne_true_of_eq_false h), if_neg (Nat.not_le.mpr hr)]; rfl

/-- the new map is the old one, less possibly an evicted key, with `k` bound to `v` -/
theorem insert_map (c : Lru V) (k : Nat) (v : V) :
    ∃ m, (insert c k v).1.map = mapInsert m k v ∧
      ∀ k' w, mapGet m k' = some w → mapGet c.map k' = some w := by
  cases h : mapHas c.map k with
  | true => exact ⟨c.map, by rw [insert_of_has h], fun _ _ => id⟩
  | false =>
    by_cases hf : c.order.length ≥ c.cap
    · exact ⟨(popLru c).1.map, by rw [insert_of_full h hf]; rfl, fun _ _ => popLru_map_sub c⟩
    · exact ⟨c.map, by rw [insert_of_room h (Nat.not_le.mp hf)]; rfl, fun _ _ => id⟩

theorem insert_get (c : Lru V) (k : Nat) (v : V) : mapGet (insert c k v).1.map k = some v := by
  obtain ⟨m, e, -⟩ := insert_map c k v
  rw [e, mapGet_insert, if_pos rfl]

theorem insert_cap (c : Lru V) (k : Nat) (v : V) : (insert c k v).1.cap = c.cap := by
  cases h : mapHas c.map k with
  | true => rw [insert_of_has h]; exact touch_cap c k
  | false =>
    by_cases hf : c.order.length ≥ c.cap
    · rw [insert_of_full h hf]; exact popLru_cap c
    · rw [insert_of_room h (Nat.not_le.mp hf)]; rfl

/-- binding `k` and moving it to the most-recent end keeps the invariant, whether or not `k` was
in the cache -/
theorem inv_bump {c : Lru V} (h : Inv c) (k : Nat) (v : V) :
    Inv { c with order := c.order.erase k ++ [k], map := mapInsert c.map k v } := by
  refine ⟨?_, ?_⟩
  · refine List.nodup_append.mpr ⟨h.nodup.erase k, List.pairwise_singleton .., fun a ha b hb => ?_⟩
    cases List.mem_singleton.mp hb
    exact (h.nodup.mem_erase_iff.mp ha).1
  · show (keys (mapInsert c.map k v)).Perm (c.order.erase k ++ [k])
    rw [keys_insert, keys_remove_erase _ _ h.keysNodup]
    exact ((h.perm.erase k).cons k).trans (List.perm_append_singleton ..).symm

theorem inv_push {c : Lru V} (h : Inv c) (k : Nat) (v : V) (hk : k ∉ c.order) : Inv (push c k v) := by
  have := inv_bump h k v
  rwa [List.erase_of_not_mem hk] at this

theorem inv_insert {c : Lru V} (h : Inv c) (k : Nat) (v : V) : Inv (insert c k v).1 := by
  cases hh : mapHas c.map k with
  | true =>
    rw [insert_of_has hh, touch_of_mem ((h.has_iff k).mp hh)]
    exact inv_bump h k v
  | false =>
    have hk : k ∉ c.order := fun hm => Bool.false_ne_true (hh ▸ (h.has_iff k).mpr hm)
    by_cases hf : c.order.length ≥ c.cap
    · rw [insert_of_full hh hf]
      refine inv_push (inv_popLru h) k v fun hm => hk ?_
      rw [popLru_order] at hm
      exact List.mem_of_mem_tail hm
    · rw [insert_of_room hh (Nat.not_le.mp hf)]
      exact inv_push h k v hk

theorem push_order_length (c : Lru V) (k : Nat) (v : V) :
    (push c k v).order.length = c.order.length + 1 :=
  List.length_append

theorem insert_order_le {c : Lru V} (hcap : 1 ≤ c.cap) (hle : c.order.length ≤ c.cap)
    (k : Nat) (v : V) : (insert c k v).1.order.length ≤ c.cap := by
  cases hh : mapHas c.map k with
  | true => rw [insert_of_has hh]; exact (touch_order_perm c k).length_eq ▸ hle
  | false =>
    by_cases hf : c.order.length ≥ c.cap
    · rw [insert_of_full hh hf, push_order_length, popLru_order, List.length_tail,
        Nat.sub_add_cancel (Nat.le_trans hcap hf)]
      exact hle
    · rw [insert_of_room hh (Nat.not_le.mp hf), push_order_length]
      exact Nat.not_le.mp hf

theorem fetch_hit {load : Nat → V} {c : Lru V} {k : Nat} {v : V} (h : mapGet c.map k = some v) :
    fetch load c k = (touch (touch c k) k, some v, none) := by
  unfold fetch; rw [get_hit h]; dsimp only; rw [get_hit (touch_map c k ▸ h)]

theorem fetch_miss {load : Nat → V} {c : Lru V} {k : Nat} (h : mapGet c.map k = none) :
    fetch load c k = (touch (insert c k (load k)).1 k, some (load k),
      (insert c k (load k)).2.map (·.1)) := by
  have hi := insert_get c k (load k)
  unfold fetch; rw [get_miss h]; dsimp only
  generalize insert c k (load k) = i at hi ⊢
  obtain ⟨c2, ev⟩ := i
  dsimp only; rw [get_hit hi]

theorem fetch_preserves {P : Lru V → Prop} {load : Nat → V} {k : Nat}
    (ht : ∀ c, P c → P (touch c k)) (hi : ∀ c, P c → P (insert c k (load k)).1)
    {c : Lru V} (h : P c) : P (fetch load c k).1 := by
  -- `dsimp only` takes the projection off the triple; left to `exact`, unification unfolds `touch`
  cases hg : mapGet c.map k with
  | some v => rw [fetch_hit hg]; dsimp only; exact ht _ (ht _ h)
  | none => rw [fetch_miss hg]; dsimp only; exact ht _ (hi _ h)

theorem runOps_preserves {P : Lru V → Prop} {load : Nat → V} (ht : ∀ c k, P c → P (touch c k))
    (hi : ∀ c k, P c → P (insert c k (load k)).1) (hr : ∀ c k, P c → P (remove c k).1)
    (ops : List Op) (c : Lru V) (h : P c) : P (runOps load c ops).1 := by
  fun_induction runOps load c ops with
  | case1 c => exact h
  | case2 c k rest c1 v x hf c2 vs hrun ih =>
    have hc := fetch_preserves (load := load) (ht · k) (hi · k) h
    rw [hf] at hc
    have := ih hc
    rwa [hrun] at this
  | case3 c k rest ih => exact ih (hr c k h)

theorem inv_run {load : Nat → V} {c : Lru V} (h : Inv c) (ops : List Op) :
    Inv (runOps load c ops).1 :=
  runOps_preserves (P := Inv) (fun _ k h => inv_touch h k) (fun _ k h => inv_insert h k _)
    (fun _ k h => inv_remove h k) ops c h

end TurVerif.Lru
