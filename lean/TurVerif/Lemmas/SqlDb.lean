import TurVerif.Model.SqlDb
/-!
Facts about the relational state machine `TurVerif.SqlDb` that the DML properties share: table
lookup after `put`, the two outcomes of `applyValid`, histories, and what the referential-action
pass leaves alone.
-/
namespace TurVerif.SqlDb
open TurVerif.Sql

/-! ### `find` and `put` -/

theorem find_some_name (s : DbState) (tn : String) (t : TableSt) (h : s.find tn = some t) :
    t.name = tn :=
  eq_of_beq (List.find?_some (p := fun (x : TableSt) => x.name == tn) h)

theorem find_some_mem (s : DbState) (tn : String) (t : TableSt) (h : s.find tn = some t) :
    t ∈ s.tables :=
  List.mem_of_find?_eq_some h

/-- `put` replaces by name, so it commutes with lookup by name -/
theorem find_put_eq (s : DbState) (t' : TableSt) (n : String) :
    (s.put t').find n = (s.find n).map (fun x => if x.name == t'.name then t' else x) := by
  unfold DbState.find DbState.put
  rw [List.find?_map]
  congr 2
  funext x
  show ((if x.name == t'.name then t' else x).name == n) = (x.name == n)
  split
  · next h => rw [eq_of_beq h]
  · rfl

theorem find_put (s : DbState) (tn : String) (t t' : TableSt) (h : s.find tn = some t)
    (hn : t'.name = t.name) : (s.put t').find tn = some t' := by
  rw [find_put_eq, h, Option.map_some, hn, if_pos (beq_self_eq_true _)]

theorem find_put_other (s : DbState) (tn n : String) (t' : TableSt) (hn : t'.name = tn)
    (hne : n ≠ tn) : (s.put t').find n = s.find n := by
  rw [find_put_eq]
  cases h : s.find n with
  | none => rfl
  | some x =>
    have hx : ¬ (x.name == t'.name) = true := fun e =>
      hne (by rw [← find_some_name s n x h, eq_of_beq e, hn])
    rw [Option.map_some, if_neg hx]

theorem put_put (s : DbState) (a b : TableSt) (h : a.name = b.name) : (s.put a).put b = s.put b := by
  simp only [DbState.put, List.map_map, h]
  congr 2
  funext x
  by_cases hx : x.name = b.name <;> simp [hx, h]

/-! ### `applyValid` -/

theorem applyValid_ok (s : DbState) {s' : DbState} (res : Res) (h : dbValid s' = .ok true) :
    applyValid s s' res = (s', res) := by
  simp [applyValid, h]

theorem applyValid_refused (s : DbState) {s' : DbState} (res : Res) (h : dbValid s' ≠ .ok true) :
    ∃ e, applyValid s s' res = (s, .err e) := by
  unfold applyValid
  split
  · exact ⟨_, rfl⟩
  · contradiction
  · exact ⟨_, rfl⟩

theorem applyValid_cases (s s' : DbState) (res : Res) :
    (applyValid s s' res = (s', res) ∧ dbValid s' = .ok true) ∨
    ∃ e, applyValid s s' res = (s, .err e) := by
  by_cases hv : dbValid s' = .ok true
  · exact .inl ⟨applyValid_ok s res hv, hv⟩
  · exact .inr (applyValid_refused s res hv)

/-- a statement that reports success installed its candidate, which is valid -/
theorem applyValid_affected (s s' : DbState) (n m : Nat) (ret ret' : List Row)
    (h : (applyValid s s' (.affected n ret)).2 = .affected m ret') :
    applyValid s s' (.affected n ret) = (s', .affected n ret) ∧ m = n ∧ ret' = ret ∧
      dbValid s' = .ok true := by
  rcases applyValid_cases s s' (.affected n ret) with ⟨he, hv⟩ | ⟨e, he⟩
  · rw [he] at h
    cases h
    exact ⟨he, rfl, rfl, hv⟩
  · rw [he] at h
    cases h

/-- INSERT into a table that exists, unfolded -/
theorem step_insert (s : DbState) (tn : String) (cols : List Nat) (rows : List (List Expr))
    (t : TableSt) (hf : s.find tn = some t) :
    step s (.insert tn cols rows) =
      match buildInsertRows t cols rows t.nextAuto with
      | .error e => (s, .err e)
      | .ok (newRows, next) =>
        applyValid s (s.put { t with rows := t.rows ++ newRows, nextAuto := next })
          (.affected newRows.length newRows) := by
  simp only [step, hf]
  split <;> simp_all

/-! ### histories -/

theorem run_cons (s : DbState) (st : Stmt) (rest : List Stmt) :
    run s (st :: rest) = ((run (step s st).1 rest).1, (step s st).2 :: (run (step s st).1 rest).2) :=
  rfl

theorem run_append (s : DbState) (a b : List Stmt) :
    (run s (a ++ b)).1 = (run (run s a).1 b).1 := by
  induction a generalizing s with
  | nil => rfl
  | cons st rest ih => exact ih _

/-! ### the referential-action pass -/

theorem cascadeDelete_txn (fuel : Nat) (s : DbState) (p : String) (g : List Row) :
    (cascadeDelete fuel s p g).txn = s.txn := by
  induction fuel generalizing s p g with
  | zero => rfl
  | succ fuel ih =>
    unfold cascadeDelete
    refine List.foldlRecOn (motive := fun (st : DbState) => st.txn = s.txn) _ _ rfl fun acc hacc t _ => ?_
    refine List.foldlRecOn (motive := fun (st : DbState) => st.txn = s.txn) _ _ hacc fun acc2 hacc2 f _ => ?_
    dsimp only
    split
    · split
      · exact hacc2
      · split
        · exact hacc2
        · rw [ih]; exact hacc2
    · exact hacc2

end TurVerif.SqlDb
