import TurVerif.Model.Commit
/-!
Lemmas about the commit protocol model (C01, C02).

Pages: `redo_apply` (the newest frame of a page wins) is the one fact about `redo`; what a
statement's frames redo to and locality follow from it (idempotence: `C01.redo_idempotent`).
Traces: a statement's trace is a quiet body (in-place writes, frames into the buffer), then the
sync, then the acknowledgement (`C01.crash_state`: the state wherever a crash falls in such a trace).
-/
namespace TurVerif.Commit

def touched (ms : List Mut) (f p : Nat) : Bool := ms.any (fun m => m.file == f && m.page == p)

/-- `v := Mut.img` turns `applyMuts` into a `redo` (`applyMuts_eq_redo`); `v := lastImg ms ..` gives
the frames a statement logs (`framesList`).  One lemma, `redo_frameWith_apply`, serves both. -/
def frameWith (v : Mut → Nat) (m : Mut) : Frame := { file := m.file, page := m.page, img := v m }

def framesList (ms : List Mut) : List Frame := ms.map (frameWith fun m => lastImg ms m.file m.page)

/-- acknowledgements in `es`; the model's `acked es k` unfolds to `ackCount (es.take k)` -/
def ackCount (es : List Event) : Nat := (es.filter (· == Event.ack)).length

theorem setPg_apply (pg : Pages) (f p v f' p' : Nat) :
    setPg pg f p v f' p' = if (f == f' && p == p') = true then v else pg f' p' := by
  simp only [setPg, Bool.and_eq_true, beq_iff_eq, @eq_comm _ f f', @eq_comm _ p p']

theorem redo_append (pg : Pages) (a b : List Frame) : redo pg (a ++ b) = redo (redo pg a) b :=
  List.foldl_append

theorem redo_cons (pg : Pages) (fr : Frame) (w : List Frame) :
    redo pg (fr :: w) = redo (setPg pg fr.file fr.page fr.img) w := rfl

/-- last writer wins (`C01.redo_last_writer` is this with `C01.lastImg` folded) -/
theorem redo_apply (pg : Pages) (w : List Frame) (f p : Nat) :
    redo pg w f p
      = ((w.reverse.find? fun fr => fr.file == f && fr.page == p).map (·.img)).getD (pg f p) := by
  suffices ∀ r : List Frame, redo pg r.reverse f p
      = ((r.find? fun fr => fr.file == f && fr.page == p).map (·.img)).getD (pg f p) by
    simpa using this w.reverse
  intro r
  induction r with
  | nil => rfl
  | cons fr r ih =>
    rw [List.reverse_cons, redo_append, List.find?_cons]
    show setPg (redo pg r.reverse) fr.file fr.page fr.img f p = _
    rw [setPg_apply, ih]
    cases (fr.file == f && fr.page == p) <;> rfl

theorem redo_congr_at (w : List Frame) (a b : Pages) (f p : Nat) (h : a f p = b f p) :
    redo a w f p = redo b w f p := by
  rw [redo_apply, redo_apply, h]

theorem applyMuts_eq_redo (pg : Pages) (ms : List Mut) :
    applyMuts pg ms = redo pg (ms.map (frameWith Mut.img)) := by
  rw [redo, List.foldl_map]; rfl

theorem redo_frameWith_apply (v : Mut → Nat) (pg : Pages) (ms : List Mut) (f p : Nat) :
    redo pg (ms.map (frameWith v)) f p
      = ((ms.reverse.find? fun m => m.file == f && m.page == p).map v).getD (pg f p) := by
  rw [redo_apply, ← List.map_reverse, List.find?_map, Option.map_map]
  rfl

theorem applyMuts_apply (pg : Pages) (ms : List Mut) (f p : Nat) :
    applyMuts pg ms f p
      = ((ms.reverse.find? fun m => m.file == f && m.page == p).map Mut.img).getD (pg f p) := by
  rw [applyMuts_eq_redo, redo_frameWith_apply]

/-- why logging the FINAL image of every mutated page is enough -/
theorem redo_framesList (pg : Pages) (ms : List Mut) : redo pg (framesList ms) = applyMuts pg ms := by
  funext f p
  rw [framesList, redo_frameWith_apply, applyMuts_apply]
  cases h : ms.reverse.find? fun m => m.file == f && m.page == p with
  | none => rfl
  | some m =>
    -- the frame of the last mutation `m` of (f, p) carries `lastImg ms f p`, which is `m.img`
    have hm : m.file = f ∧ m.page = p := by simpa using List.find?_some h
    show lastImg ms m.file m.page = m.img
    rw [lastImg, applyMuts_apply, hm.1, hm.2, h]
    rfl

theorem applyMuts_untouched (pg : Pages) (ms : List Mut) (f p : Nat) (h : touched ms f p = false) :
    applyMuts pg ms f p = pg f p := by
  have : ms.reverse.find? (fun m => m.file == f && m.page == p) = none := by
    rw [List.find?_eq_none]
    intro m hm
    rw [touched, List.any_eq_false] at h
    exact h m (List.mem_reverse.mp hm)
  rw [applyMuts_apply, this]
  rfl

theorem run_append (s : State) (a b : List Event) : run s (a ++ b) = run (run s a) b :=
  List.foldl_append

theorem run_cons (s : State) (e : Event) (es : List Event) : run s (e :: es) = run (step s e) es := rfl

theorem run_nil (s : State) : run s [] = s := rfl

theorem run_append_ack (s : State) (es : List Event) : run s (es ++ [Event.ack]) = run s es := by
  rw [run_append]; rfl

theorem recover_crashPower (es : List Event) (k : Nat) :
    recover (crashPower es k) = redo (run {} (es.take k)).dur (run {} (es.take k)).walDur := rfl

theorem recover_crashKill (es : List Event) (k : Nat) :
    recover (crashKill es k) = redo (run {} (es.take k)).vol (run {} (es.take k)).walOs := rfl

theorem ackCount_append (a b : List Event) : ackCount (a ++ b) = ackCount a + ackCount b := by
  simp [ackCount, List.filter_append]

/-- events that touch neither durable state nor the WAL file, and acknowledge nothing -/
def quiet : Event → Bool
  | .mut .. => true
  | .walWrite .. => true
  | _ => false

theorem step_quiet (s : State) (e : Event) (h : quiet e = true) :
    (step s e).dur = s.dur ∧ (step s e).walOs = s.walOs ∧ (step s e).walDur = s.walDur ∧
    ∀ f p, (∀ v, e ≠ .mut f p v) → (step s e).vol f p = s.vol f p := by
  cases e with
  | «mut» f' p' v =>
    refine ⟨rfl, rfl, rfl, fun f p hne => ?_⟩
    show setPg s.vol f' p' v f p = _
    rw [setPg_apply, if_neg]
    intro hfp
    simp only [Bool.and_eq_true, beq_iff_eq] at hfp
    exact hne v (by rw [hfp.1, hfp.2])
  | walWrite => exact ⟨rfl, rfl, rfl, fun _ _ _ => rfl⟩
  | _ => cases h

theorem run_quiet (es : List Event) : ∀ (s : State), (∀ e ∈ es, quiet e = true) →
    (run s es).dur = s.dur ∧ (run s es).walOs = s.walOs ∧ (run s es).walDur = s.walDur ∧
    ∀ f p, (∀ v, Event.mut f p v ∉ es) → (run s es).vol f p = s.vol f p := by
  induction es with
  | nil => intro s _; exact ⟨rfl, rfl, rfl, fun _ _ _ => rfl⟩
  | cons e es ih =>
    intro s h
    obtain ⟨h1, h2, h3, h4⟩ := ih (step s e) (fun x hx => h x (List.mem_cons_of_mem _ hx))
    obtain ⟨g1, g2, g3, g4⟩ := step_quiet s e (h e List.mem_cons_self)
    refine ⟨h1.trans g1, h2.trans g2, h3.trans g3, fun f p hm => ?_⟩
    exact (h4 f p fun v hv => hm v (List.mem_cons_of_mem _ hv)).trans
      (g4 f p fun v hv => hm v (hv ▸ List.mem_cons_self))

theorem ackCount_quiet (es : List Event) (h : ∀ e ∈ es, quiet e = true) : ackCount es = 0 := by
  unfold ackCount
  rw [List.length_eq_zero_iff, List.filter_eq_nil_iff]
  intro e he hack
  rw [beq_iff_eq.mp hack] at he
  exact absurd (h _ he) (by decide)

def mutEvents (ms : List Mut) : List Event := ms.map (fun m => Event.mut m.file m.page m.img)

/-- the part of a statement's trace before the sync -/
def body (ms : Stmt) : List Event := mutEvents ms ++ framesOf ms

theorem stmtTrace_eq (ms : Stmt) : stmtTrace ms = body ms ++ [Event.walSync] ++ [Event.ack] := by
  simp [stmtTrace, body, mutEvents]

theorem quiet_body (ms : Stmt) : ∀ e ∈ body ms, quiet e = true := by
  intro e he
  simp only [body, List.mem_append, mutEvents, framesOf, List.mem_map] at he
  rcases he with ⟨m, _, rfl⟩ | ⟨m, _, rfl⟩ <;> rfl

theorem body_untouched (ms : Stmt) (f p : Nat) (ht : touched ms f p = false) (v : Nat) :
    Event.mut f p v ∉ body ms := by
  intro he
  simp only [body, List.mem_append, mutEvents, framesOf, List.mem_map] at he
  rcases he with ⟨m, hm, he⟩ | ⟨m, _, he⟩
  · injection he with h1 h2
    rw [touched, List.any_eq_false] at ht
    exact ht m hm (by simp [h1, h2])
  · cases he

theorem run_mutEvents (ms : List Mut) : ∀ (s : State),
    run s (mutEvents ms) = { s with vol := applyMuts s.vol ms } := by
  induction ms with
  | nil => intro s; rfl
  | cons m ms ih => intro s; exact ih (step s (Event.mut m.file m.page m.img))

theorem run_walWrites (v : Mut → Nat) (l : List Mut) : ∀ (s : State),
    run s (l.map fun m => Event.walWrite m.file m.page (v m))
      = { s with walBuf := s.walBuf ++ l.map (frameWith v) } := by
  induction l with
  | nil => intro s; simp [run]
  | cons m l ih =>
    intro s
    rw [List.map_cons, run_cons, ih]
    simp [step, frameWith]

theorem run_body (ms : Stmt) (s : State) :
    run s (body ms)
      = { s with vol := applyMuts s.vol ms, walBuf := s.walBuf ++ framesList ms } := by
  rw [body, run_append, run_mutEvents, framesOf, run_walWrites fun m => lastImg ms m.file m.page]
  rfl

theorem ackCount_stmtTrace (ms : Stmt) : ackCount (stmtTrace ms) = 1 := by
  rw [stmtTrace_eq, ackCount_append, ackCount_append, ackCount_quiet _ (quiet_body ms)]
  rfl

theorem run_stmtTrace (ms : Stmt) (s : State) :
    run s (stmtTrace ms)
      = { s with vol := applyMuts s.vol ms, walBuf := [],
                 walOs := s.walOs ++ (s.walBuf ++ framesList ms),
                 walDur := s.walOs ++ (s.walBuf ++ framesList ms) } := by
  rw [stmtTrace_eq, run_append, run_append, run_body]
  rfl

end TurVerif.Commit
