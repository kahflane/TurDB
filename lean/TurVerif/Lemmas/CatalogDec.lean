import TurVerif.Lemmas.DecCore
import TurVerif.Model.CatalogDec
/-!
Totality of the catalog deserializer model: every parser step either fails with `Err` or
succeeds at a position that is not before the one it started from; no step reads out of bounds.
-/
namespace TurVerif.CatalogDec
open TurVerif.Dec

/-- outcome of a parser step started at `pos`: no panic, and on success the position has moved at
least `k` bytes forwards (`k = 0`: not backwards) -/
def OkAt {α : Type} (k : Nat) (r : Res (α × Nat)) (pos : Nat) : Prop :=
  r.panics = false ∧ ∀ x p, r = .ok (x, p) → pos + k ≤ p

/-- a step that moves forward from `q` does not move backwards from any `pos ≤ q` (the bound `k` is given up) -/
theorem OkAt.mono {α : Type} {k : Nat} {r : Res (α × Nat)} {pos q : Nat} (h : OkAt k r q) (hq : pos ≤ q) :
    OkAt 0 r pos := ⟨h.1, fun x p e => Nat.le_trans hq (Nat.le_of_add_right_le (h.2 x p e))⟩

theorem OkAt.weaken {α : Type} {k : Nat} {r : Res (α × Nat)} {pos : Nat} (h : OkAt k r pos) :
    OkAt 0 r pos := h.mono (Nat.le_refl _)

theorem okAt_ok {α : Type} {x : α} {pos p : Nat} (h : pos ≤ p) : OkAt 0 (Res.ok (x, p)) pos :=
  ⟨rfl, fun _ _ e => by cases e; exact h⟩

theorem okAt_here {α : Type} {x : α} {pos : Nat} : OkAt 0 (Res.ok (x, pos)) pos :=
  okAt_ok (Nat.le_refl _)

theorem okAt_err {α : Type} {k : Nat} {e : String} {pos : Nat} : OkAt k (Res.err e : Res (α × Nat)) pos :=
  ⟨rfl, fun _ _ h => by cases h⟩

/-- sequencing two steps: the second starts where the first ended; the whole moves forward by the `k` of the first -/
theorem okAt_bind {α β : Type} {k : Nat} {r : Res (α × Nat)} {f : α × Nat → Res (β × Nat)} {pos : Nat}
    (h1 : OkAt k r pos) (h2 : ∀ x p, pos + k ≤ p → OkAt 0 (f (x, p)) p) : OkAt k (r.bind f) pos := by
  cases r with
  | ok a =>
    have hp := h1.2 a.1 a.2 rfl
    have h := h2 a.1 a.2 hp
    exact ⟨h.1, fun y q e => Nat.le_trans hp (h.2 y q e)⟩
  | err e => exact okAt_err
  | _ => cases h1.1

/-- the same, when all that is asked of the whole is not to move backwards -/
theorem okAt_bind0 {α β : Type} {k : Nat} {r : Res (α × Nat)} {f : α × Nat → Res (β × Nat)} {pos : Nat}
    (h1 : OkAt k r pos) (h2 : ∀ x p, pos ≤ p → OkAt 0 (f (x, p)) p) : OkAt 0 (r.bind f) pos :=
  okAt_bind h1.weaken h2

theorem okAt_ensure {β : Type} {k : Nat} {c : Bool} {e : String} {f : Unit → Res (β × Nat)} {pos : Nat}
    (h : c = true → OkAt k (f ()) pos) : OkAt k ((ensure c e).bind f) pos := by
  cases c
  · exact okAt_err
  · exact h rfl

theorem okAt_ite {α : Type} {k pos : Nat} {c : Prop} [Decidable c] {x y : Res (α × Nat)}
    (hx : c → OkAt k x pos) (hy : ¬ c → OkAt k y pos) : OkAt k (if c then x else y) pos :=
  ite_cases (Q := (OkAt k · pos)) hx hy

/-- `ensure!(pos + w <= len)`, then a read of `w` bytes that succeeds under that guard -/
theorem fixedAt_ok {b : Buf} {e : String} {w pos : Nat} {r : Res Nat} (h : pos + w ≤ b.len → ∃ v, r = .ok v) :
    OkAt w ((ensure (decide (pos + w ≤ b.len)) e).bind fun _ => r.bind fun x => .ok (x, pos + w)) pos :=
  okAt_ensure fun hc => by
    obtain ⟨v, hv⟩ := h (of_decide_eq_true hc)
    rw [hv]; exact ⟨rfl, fun _ _ e => by cases e; exact Nat.le_refl _⟩

variable (b : Buf)

theorem u8At_ok {w : String} {pos : Nat} : OkAt 1 (u8At b w pos) pos :=
  fixedAt_ok fun h => ⟨_, rd_lt h⟩

theorem u16At_ok {w : String} {pos : Nat} : OkAt 2 (u16At b w pos) pos :=
  fixedAt_ok fun h => ⟨_, rd16_le h⟩

theorem u32At_ok {w : String} {pos : Nat} : OkAt 4 (u32At b w pos) pos :=
  fixedAt_ok rd32_le

theorem u64At_ok {w : String} {pos : Nat} : OkAt 8 (u64At b w pos) pos :=
  fixedAt_ok rd64_le

theorem strAt_ok {w : String} {pos : Nat} : OkAt 2 (strAt b w pos) pos :=
  okAt_bind (u16At_ok b) fun n p _ => okAt_ensure fun h => by
    rw [slice_le (Nat.le_add_right _ _) (of_decide_eq_true h)]
    exact okAt_ite (fun _ => okAt_ok (Nat.le_add_right _ _)) fun _ => okAt_err

theorem repeatN_ok {α : Type} {item : P α} (hi : ∀ {pos}, OkAt 0 (item pos) pos) :
    ∀ n {pos}, OkAt 0 (repeatN item n pos) pos
  | 0, _ => okAt_here
  | n + 1, _ => okAt_bind hi fun _ _ _ => okAt_bind (repeatN_ok hi n) fun _ _ _ => okAt_here

theorem constraintAt_ok {pos : Nat} : OkAt 0 (constraintAt b pos) pos :=
  okAt_bind0 (u8At_ok b) fun ct p _ =>
    okAt_ite (fun _ => okAt_here) fun _ =>
    okAt_ite (fun _ =>
      okAt_bind0 (strAt_ok b) fun _ p2 _ => okAt_bind0 (strAt_ok b) fun _ p3 _ =>
        -- the optional referential actions: `if pos + 2 <= len` is the only guard of the two raw reads
        okAt_ite (fun h => by
          rw [show rd b p3 = _ from rd_at h 0, rd_at h 1]
          exact okAt_ok (Nat.le_add_right _ _))
        fun _ => okAt_here) fun _ =>
    okAt_ite (fun _ => okAt_bind0 (strAt_ok b) fun _ _ _ => okAt_here) fun _ =>
    okAt_err

theorem columnAt_ok {pos : Nat} : OkAt 0 (columnAt b pos) pos :=
  okAt_bind0 (strAt_ok b) fun name p1 _ =>
  okAt_bind0 (u8At_ok b) fun ty p2 _ =>
  okAt_ensure fun _ =>
  okAt_bind0 (u16At_ok b) fun cc p3 _ =>
  okAt_bind0 (repeatN_ok (constraintAt_ok b) cc) fun cs p4 _ =>
  okAt_bind0 (u8At_ok b) fun hd p5 _ =>
  okAt_bind0
    (okAt_ite (fun _ => okAt_bind0 (strAt_ok b) fun _ _ _ => okAt_here)
      fun _ => okAt_here) fun _ p6 _ =>
  okAt_ite (fun h => by
    rw [rd_lt h]
    exact okAt_ite
      (fun _ => okAt_bind0 ((u32At_ok b).mono (Nat.le_succ _)) fun _ _ _ => okAt_here)
      fun _ => okAt_ok (Nat.le_succ _))
  fun _ => okAt_here

theorem indexColAt_ok {pos : Nat} : OkAt 0 (indexColAt b pos) pos :=
  okAt_bind0 (strAt_ok b) fun _ _ _ =>
  okAt_bind0 (u8At_ok b) fun _ _ _ => okAt_here

theorem indexAt_ok {pos : Nat} : OkAt 0 (indexAt b pos) pos :=
  okAt_bind0 (strAt_ok b) fun _ _ _ =>
  okAt_bind0 (u16At_ok b) fun cc _ _ =>
  okAt_bind0 (repeatN_ok (indexColAt_ok b) cc) fun _ _ _ =>
  okAt_bind0 (u8At_ok b) fun _ _ _ =>
  okAt_bind0 (u8At_ok b) fun _ _ _ =>
  okAt_ite (fun _ => okAt_here) fun _ => okAt_err

theorem tableAt_ok {pos : Nat} : OkAt 0 (tableAt b pos) pos :=
  okAt_bind0 (u64At_ok b) fun _ p1 _ =>
  okAt_bind0 (strAt_ok b) fun _ p2 _ =>
  okAt_bind0 (u32At_ok b) fun cc p3 _ =>
  okAt_bind0 (repeatN_ok (columnAt_ok b) cc) fun _ p4 _ =>
  okAt_bind0 (u8At_ok b) fun _ p5 _ =>
  okAt_bind0
    (okAt_ite (fun _ =>
        okAt_bind0 (u16At_ok b) fun pc p6 _ =>
        okAt_bind0 (repeatN_ok (strAt_ok b).weaken pc) fun _ _ _ => okAt_here)
      fun _ => okAt_here) fun _ p6 _ =>
  okAt_bind0 (u32At_ok b) fun ic p7 _ =>
  okAt_bind0 (repeatN_ok (indexAt_ok b) ic) fun _ p8 _ =>
  okAt_ite (fun h => by
    rw [rd_lt h]
    exact okAt_ite (fun h2 => by
        obtain ⟨v, hv⟩ := rd64_le (b := b) (i := p8 + 1) h2.2
        rw [hv]; exact okAt_ok (Nat.le_add_right _ _))
      fun _ => okAt_ok (Nat.le_succ _))
  fun _ => okAt_here

theorem schemaAt_ok {pos : Nat} : OkAt 4 (schemaAt b pos) pos :=
  okAt_bind (u32At_ok b) fun _ _ _ =>
  okAt_bind0 (strAt_ok b) fun _ _ _ =>
  okAt_bind0 (u32At_ok b) fun tc _ _ =>
  okAt_bind (repeatN_ok (tableAt_ok b) tc) fun _ _ _ => okAt_here

/-- each schema record consumes input, so `len + 1 - pos` units of fuel are never used up -/
theorem desLoop_safe (known : List (List Nat)) :
    ∀ f pos, b.len + 1 ≤ f + pos → (desLoop b known f pos).panics = false
  | 0, pos, h => by
    exact ite_safe (fun hlt => absurd hlt (Nat.lt_asymm (Nat.zero_add pos ▸ h))) fun _ => rfl
  | f + 1, pos, h => by
    refine ite_safe (fun _ => ?_) fun _ => rfl
    have hs := schemaAt_ok b (pos := pos)
    refine bind_safe hs.1 fun ⟨⟨id, name, ts⟩, p'⟩ ha => ?_
    have hp := hs.2 _ _ ha
    exact ite_safe (fun _ => bind_safe (desLoop_safe known f _ (fuel_step h (Nat.lt_of_lt_of_le (Nat.lt_add_of_pos_right (by decide)) hp))) fun _ _ => rfl) fun _ => rfl

end TurVerif.CatalogDec
