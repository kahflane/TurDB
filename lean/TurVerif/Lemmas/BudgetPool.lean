import TurVerif.Lemmas.Budget
import TurVerif.Lemmas.Run
/-!
C39: when every operation of every thread is an `alloc` on ONE pool `p` (no releases), the
check-then-CAS of `MemoryBudget::allocate` is safe for any number of threads and any schedule:
the only counter that changes is `used[p]`, it only grows, and a successful compare-exchange proves
it still has the value that was loaded before `total_used()` was computed — so the total that was
checked against the limit is still the total.
-/
namespace TurVerif.Budget

/-- `cur` was loaded from counter `p` of `u`, which has not shrunk since; if it has not grown
either (the CAS would succeed), what the thread derived from its loads, `C`, is true of `u`. -/
def Fresh (u : List Nat) (p cur : Nat) (C : Prop) : Prop :=
  cur ≤ u.getD p 0 ∧ (cur = u.getD p 0 → C)

theorem Fresh.mono {u : List Nat} {p cur : Nat} {C C' : Prop} (h : Fresh u p cur C) (f : C → C') :
    Fresh u p cur C' := ⟨h.1, fun hc => f (h.2 hc)⟩

/-- after another thread's successful CAS on `p` (by `b > 0`) `cur` is strictly below the counter,
so nothing is claimed any more -/
theorem Fresh.bump {u : List Nat} {p cur b : Nat} {C C' : Prop} (h : Fresh u p cur C)
    (hp : p < u.length) (hb : 0 < b) : Fresh (u.set p (u.getD p 0 + b)) p cur C' := by
  unfold Fresh
  rw [getD_set, if_pos ⟨rfl, hp⟩]
  exact ⟨Nat.le_add_right_of_le h.1, fun hc => absurd (hc ▸ h.1) (Nat.not_le.mpr (Nat.lt_add_of_pos_right hb))⟩

/-- what the locals of a thread inside `allocate(p, b)` say about counters `u` and limit `lim` -/
def PcOk (p : Nat) (u : List Nat) (lim : Nat) : Pc → Prop
  | .idle => True
  | .aLoadPool p' b => p' = p ∧ 0 < b
  | .aTot p' b cur i acc => p' = p ∧ 0 < b ∧ Fresh u p cur (acc = psum u i)
  | .aLimit p' b cur tot => p' = p ∧ 0 < b ∧ Fresh u p cur (tot = total u)
  | .aShrLimit p' b cur | .aShrTot p' b cur _ _ _ | .aCas p' b cur =>
    p' = p ∧ 0 < b ∧ Fresh u p cur (total u + b ≤ lim)
  | .rLoad .. | .rCas .. => False

theorem pcOk_bump {p : Nat} {u : List Nat} {lim : Nat} {pc : Pc} {b : Nat} (hb : 0 < b)
    (h : PcOk p u lim pc) : PcOk p (u.set p (u.getD p 0 + b)) lim pc := by
  by_cases hp : p < u.length
  · cases pc with
    | idle | aLoadPool | rLoad | rCas => exact h
    | aTot | aLimit | aShrLimit | aShrTot | aCas => exact ⟨h.1, h.2.1, h.2.2.bump hp hb⟩
  · -- a pool index beyond the list: the CAS wrote nothing
    rwa [List.set_eq_of_length_le (Nat.le_of_not_lt hp)]

def ProgOk (p : Nat) (prog : List Op) : Prop := ∀ op ∈ prog, ∃ b, op = .alloc p b

def ThOk (p : Nat) (u : List Nat) (lim : Nat) (t : Thread) : Prop :=
  ProgOk p t.prog ∧ PcOk p u lim t.pc

structure PoolInv (p : Nat) (s : State) : Prop where
  len : s.used.length = 5
  tot : s.totalUsed ≤ s.limit
  th : ∀ t ∈ s.threads, ThOk p s.used s.limit t

/-- a step of `tid` that leaves the counters alone -/
theorem pool_keep {p : Nat} {s : State} {tid : Nat} {t' : Thread} (h : PoolInv p s)
    (ht' : ThOk p s.used s.limit t') : PoolInv p (setThread s tid t') :=
  ⟨h.len, h.tot, fun t ht => (List.mem_or_eq_of_mem_set ht).elim (h.th t) (· ▸ ht')⟩

theorem pool_step {p : Nat} {s s' : State} {tid : Nat} (h : PoolInv p s)
    (hs : step s tid = some s') : PoolInv p s' := by
  obtain ⟨⟨prog, pc, res⟩, ht, hk⟩ := step_cases hs
  obtain ⟨hprog, hpc⟩ := h.th _ (List.mem_of_getElem? ht)
  cases hk with
  | quiet t' hl =>
    refine pool_keep h ?_
    cases hl with
    | allocZero hq hpr =>
      exact ⟨fun o ho => hprog o (hpr ▸ List.mem_cons_of_mem _ ho), hpc⟩
    | allocStart hq hpr hb =>
      obtain ⟨b', hb'⟩ := hprog _ (hpr ▸ List.mem_cons_self)
      cases hb'
      exact ⟨fun o ho => hprog o (hpr ▸ List.mem_cons_of_mem _ ho), rfl, Nat.pos_of_ne_zero hb⟩
    | relZero hq hpr | relStart hq hpr =>
      obtain ⟨b', hb'⟩ := hprog _ (hpr ▸ List.mem_cons_self)
      cases hb'
    | loadPool hq =>
      subst hq
      exact ⟨hprog, hpc.1, hpc.2, hpc.1 ▸ Nat.le_refl _, fun _ => rfl⟩
    | tot hq =>
      subst hq
      exact ⟨hprog, hpc.1, hpc.2.1, hpc.2.2.mono fun hacc => by rw [psum_succ, hacc]⟩
    | totEnd hq hi =>
      subst hq
      exact ⟨hprog, hpc.1, hpc.2.1, hpc.2.2.mono (psum_end h.len hi)⟩
    | refuse | shrRefuse => exact ⟨hprog, trivial⟩
    | toShared hq hle | toCas hq hle =>
      subst hq
      exact ⟨hprog, hpc.1, hpc.2.1, hpc.2.2.mono fun ht => ht ▸ Nat.le_of_not_lt hle⟩
    | shrLimit hq | shrTot hq | shrCas hq =>
      subst hq; exact ⟨hprog, hpc⟩
    | casFail hq => subst hq; exact ⟨hprog, hpc.1, hpc.2.1⟩
    | rLoad hq | rCasFail hq => subst hq; exact hpc.elim
  | allocCas p' b hq =>
    -- the CAS succeeded: the loaded value is current, so the checked total is the total
    subst hq
    obtain ⟨rfl, hb, hfr⟩ := hpc
    exact ⟨List.length_set.trans h.len, Nat.le_trans (total_set_le (Nat.le_refl _)) (hfr.2 rfl),
      fun t0 ht0 => (List.mem_or_eq_of_mem_set ht0).elim
        (fun ht0 => ⟨(h.th t0 ht0).1, pcOk_bump hb (h.th t0 ht0).2⟩) (fun e => by subst e; exact ⟨hprog, trivial⟩)⟩
  | relCas p' b hq => subst hq; exact hpc.elim

theorem pool_run {p : Nat} {s : State} (h : PoolInv p s) (sched : List Nat) :
    PoolInv p (run s sched) :=
  Run.invariant step run (fun _ => rfl) (fun _ _ _ => rfl) pool_step sched h

theorem pool_init (p limit : Nat) (progs : List (List Op))
    (hall : ∀ prog ∈ progs, ∀ op ∈ prog, ∃ b, op = .alloc p b) : PoolInv p (init limit progs) := by
  refine ⟨rfl, Nat.zero_le _, fun t ht => ?_⟩
  obtain ⟨prog, hp, rfl⟩ := List.mem_map.mp ht
  exact ⟨hall prog hp, trivial⟩

end TurVerif.Budget
