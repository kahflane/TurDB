import TurVerif.Lemmas.GroupCommit
/-!
C37: the inductive invariants of the group-commit LTS and their preservation by every step, for
any number of committers and any schedule.  Every invariant is a `∀`-statement over the view
(`pcAt`, `comp`, `err`, `fw`, `pending`, `log`, `flushInProgress`); preservation is read off the effect
`Eff` of a step on the view.

Life cycle of commit id `a` (thread `a` submits it once, at `start`):
  unsubmitted → in `pending` → in exactly one owner's batch (`write b` → `mark b ok` → `clear b ok`)
  → released; `a ∈ log` from the owner's successful `write` on; `completed[a]` from `mark` on.
-/
namespace TurVerif.GroupCommit

/-- the thread owns a batch: it will run `notify_all` -/
def isOwner : Pc → Bool
  | .write _ => true
  | .mark _ _ => true
  | .clear _ _ => true
  | _ => false

/-! ### the invariants
(ownership of a batch `b` by thread `j` is spelled out per program counter — `write b`, `mark b ok`,
`clear b ok` — so that every clause is a plain implication) -/

/-- an unsubmitted commit is nowhere -/
def InvU (s : State) : Prop := ∀ a, pcAt s a = some .start →
  a ∉ s.pending ∧ a ∉ s.log ∧ comp s a = false ∧
  (∀ j b, pcAt s j = some (.write b) → a ∉ b) ∧
  (∀ j b ok, pcAt s j = some (.mark b ok) → a ∉ b) ∧
  (∀ j b ok, pcAt s j = some (.clear b ok) → a ∉ b)

/-- a commit in an owned batch is not pending -/
def InvK (s : State) : Prop :=
  (∀ j b a, pcAt s j = some (.write b) → a ∈ b → a ∉ s.pending) ∧
  (∀ j b ok a, pcAt s j = some (.mark b ok) → a ∈ b → a ∉ s.pending) ∧
  (∀ j b ok a, pcAt s j = some (.clear b ok) → a ∈ b → a ∉ s.pending)

/-- a completed commit is not pending -/
def InvH (s : State) : Prop := ∀ a, comp s a = true → a ∉ s.pending

/-- the committer of a pending commit is still inside `submit_and_wait`, or is a self-elected
leader about to call `take_pending` -/
def InvG (s : State) : Prop := ∀ a, a ∈ s.pending →
  pcAt s a = some .waitLock ∨ pcAt s a = some .condWait ∨ pcAt s a = some .take

/-- `flush_in_progress` is only set while somebody will still clear it -/
def InvF (s : State) : Prop := s.flushInProgress = true →
  (∃ j pc, pcAt s j = some pc ∧ isOwner pc = true) ∨ (s.pending ≠ [] ∧ ∃ j, pcAt s j = some .take)

/-- a committer inside the wait loop whose commit is not completed: the commit is pending or in a
batch that is still to be marked -/
def InvZ (s : State) : Prop := ∀ a, (pcAt s a = some .waitLock ∨ pcAt s a = some .condWait) →
  comp s a = false →
  a ∈ s.pending ∨ (∃ j b, pcAt s j = some (.write b) ∧ a ∈ b) ∨
    (∃ j b ok, pcAt s j = some (.mark b ok) ∧ a ∈ b)

/-- a committer blocked on the condvar with its commit still pending: a flush is in progress -/
def InvW1 (s : State) : Prop := ∀ a, pcAt s a = some .condWait → a ∈ s.pending →
  s.flushInProgress = true

/-- a committer blocked on the condvar whose commit is already completed: the owner of its batch
is just about to `notify_all` -/
def InvW2 (s : State) : Prop := ∀ a, pcAt s a = some .condWait → comp s a = true →
  ∃ j b ok, pcAt s j = some (.clear b ok) ∧ a ∈ b

def InvJ1 (s : State) : Prop := s.pending.Nodup
def InvJ2 (s : State) : Prop := s.log.Nodup
def InvJ3 (s : State) : Prop := ∀ j b, pcAt s j = some (.write b) → b.Nodup ∧ ∀ a, a ∈ b → a ∉ s.log
def InvJ4 (s : State) : Prop := ∀ a, a ∈ s.pending → a ∉ s.log
def InvJ5 (s : State) : Prop := ∀ i j bi bj, i ≠ j → pcAt s i = some (.write bi) →
  pcAt s j = some (.write bj) → ∀ a, a ∈ bi → a ∉ bj

/-- conservation: a submitted commit is pending, held unwritten by an owner, logged, or failed -/
def InvLife (s : State) : Prop := ∀ a pc, pcAt s a = some pc → pc ≠ .start →
  a ∈ s.pending ∨ (∃ j b, pcAt s j = some (.write b) ∧ a ∈ b) ∨
    (∃ j b, pcAt s j = some (.mark b false) ∧ a ∈ b) ∨ a ∈ s.log ∨ err s a = true

/-- a batch marked / being marked as successful is in the log -/
def InvML (s : State) : Prop :=
  (∀ j b a, pcAt s j = some (.mark b true) → a ∈ b → a ∈ s.log) ∧
  (∀ j b a, pcAt s j = some (.clear b true) → a ∈ b → a ∈ s.log)

/-- completed without error means logged -/
def InvL (s : State) : Prop := ∀ a, comp s a = true → err s a = false → a ∈ s.log

/-- every commit id that occurs anywhere belongs to an existing committer -/
def InvV (s : State) : Prop :=
  (∀ a, a ∈ s.pending → pcAt s a ≠ none) ∧ (∀ a, a ∈ s.log → pcAt s a ≠ none) ∧
  (∀ j b a, pcAt s j = some (.write b) → a ∈ b → pcAt s a ≠ none) ∧
  (∀ j b ok a, pcAt s j = some (.mark b ok) → a ∈ b → pcAt s a ≠ none)

/-- a batch is only marked failed by a thread whose write fails -/
def InvMF (s : State) : Prop := ∀ j b, pcAt s j = some (.mark b false) → fw s j = true

/-- an error flag is only ever set when some thread's write fails -/
def InvErr (s : State) : Prop := ∀ a, err s a = true → ∃ j, fw s j = true

structure Inv (s : State) : Prop where
  len : Len s
  u : InvU s
  k : InvK s
  h : InvH s
  g : InvG s
  f : InvF s
  z : InvZ s
  w1 : InvW1 s
  w2 : InvW2 s
  j1 : InvJ1 s
  j2 : InvJ2 s
  j3 : InvJ3 s
  j4 : InvJ4 s
  j5 : InvJ5 s
  life : InvLife s
  ml : InvML s
  l : InvL s
  v : InvV s
  mf : InvMF s
  er : InvErr s

/-! ### preservation

Each clause is read backwards through the step: whatever it speaks of after the step (a thread at
some program counter, a member of `pending` or of the log, a set flag) was there before or has just
been put there by the moving thread `tid`, whose own transition is then read off `Next`. -/

def batch : Pc → List Nat
  | .write b | .mark b _ | .clear b _ => b
  | _ => []

theorem InvU.not_held {s : State} {a j : Nat} {r : Pc} (hU : InvU s) (ha : pcAt s a = some .start)
    (hj : pcAt s j = some r) : a ∉ batch r := by
  obtain ⟨-, -, -, h1, h2, h3⟩ := hU a ha
  cases r with
  | write b => exact h1 j b hj
  | mark b ok => exact h2 j b ok hj
  | clear b ok => exact h3 j b ok hj
  | _ => exact List.not_mem_nil

theorem InvK.not_pending {s : State} {a j : Nat} {r : Pc} (hK : InvK s) (hj : pcAt s j = some r)
    (ha : a ∈ batch r) : a ∉ s.pending := by
  cases r with
  | write b => exact hK.1 j b a hj ha
  | mark b ok => exact hK.2.1 j b ok a hj ha
  | clear b ok => exact hK.2.2 j b ok a hj ha
  | _ => cases ha

section
variable {s s' : State} {tid : Nat} {p p' : Pc} {q l : List Nat} {f : Bool}

/-- after a step that leaves the flag set the mover owns a batch, or has just elected itself, or
the flag was set before and the mover was neither an owner nor (if something is pending) at `take` -/
theorem Next.flag (hn : Next s tid p p' q f l) (hf : f = true) :
    isOwner p' = true ∨ (p' = .take ∧ q ≠ []) ∨
      (s.flushInProgress = true ∧ isOwner p = false ∧ (s.pending ≠ [] → q ≠ [] ∧ p ≠ .take)) := by
  cases hn <;> simp_all [isOwner]

variable (e : Eff s tid s' p p' q f l)
include e

/-- a commit held in a batch after the step was held by the same thread before, or was pending and
has just been drained -/
theorem held_origin {j a : Nat} {r : Pc} (hj : pcAt s' j = some r) (ha : a ∈ batch r) :
    (∃ r0, pcAt s j = some r0 ∧ a ∈ batch r0) ∨ (a ∈ s.pending ∧ s'.pending = []) := by
  have hr : wakeTarget r = false := by cases r <;> first | rfl | cases ha
  obtain ⟨rfl, rfl⟩ | ⟨-, hj, -⟩ := e.origin hj hr
  · -- a step hands its batch on unchanged, except `take_pending`, which makes `pending` the batch
    have hcur := e.cur
    rw [e.pending]
    cases e.next <;> first | exact .inl ⟨_, hcur, ha⟩ | exact .inr ⟨ha, rfl⟩ | cases ha
  · exact .inl ⟨r, hj, ha⟩

/-- Where a commit that is pending or in an unwritten batch is after the step: still there, or
drained by the mover's `take_pending`, or in the batch its owner goes on to mark after the write
(and in the log if the write succeeded). -/
theorem unwritten_fwd {a : Nat}
    (h : a ∈ s.pending ∨ ∃ j b, pcAt s j = some (.write b) ∧ a ∈ b) :
    a ∈ s'.pending ∨ (∃ j b, pcAt s' j = some (.write b) ∧ a ∈ b) ∨
      (∃ j b, pcAt s' j = some (.mark b false) ∧ a ∈ b) ∨
      ((∃ j b, pcAt s' j = some (.mark b true) ∧ a ∈ b) ∧ a ∈ s'.log) := by
  have hs := e.self
  rcases h with h | ⟨j, b, hj, hb⟩
  · rw [e.pending]
    cases e.next <;> first | exact .inl h | exact .inl (List.mem_append_left _ h) |
      exact .inr (.inl ⟨tid, s.pending, hs, h⟩)
  · rcases e.fwd hj nofun with h | ⟨rfl, rfl⟩
    · exact .inr (.inl ⟨j, b, h, hb⟩)
    · rw [e.log]
      cases e.next
      · exact .inr (.inr (.inl ⟨j, b, hs, hb⟩))
      · exact .inr (.inr (.inr ⟨⟨j, b, hs, hb⟩, List.mem_append_right _ hb⟩))

/-- the `mark` step sets the flags of every member of the batch that has a thread -/
theorem flags_of_mark (hLen : Len s) {a : Nat} {r : Pc} {b : List Nat} {ok : Bool}
    (ha : pcAt s a = some r) (hb : a ∈ b) (hp : p = .mark b ok) :
    comp s' a = true ∧ (ok = false → err s' a = true) :=
  ⟨(e.comp a).mpr (.inr ⟨by rw [hLen.1]; exact pcAt_lt ha, b, ok, hp, hb⟩),
    fun h => (e.err a).mpr (.inr ⟨by rw [hLen.2]; exact pcAt_lt ha, b, h ▸ hp, hb⟩)⟩

/-- a batch that is being marked stays so, or the `mark` step has just set its members' flags -/
theorem marked_fwd (hLen : Len s) {a j : Nat} {r : Pc} {b : List Nat} {ok : Bool}
    (ha : pcAt s a = some r) (hj : pcAt s j = some (.mark b ok)) (hb : a ∈ b) :
    pcAt s' j = some (.mark b ok) ∨ (comp s' a = true ∧ (ok = false → err s' a = true)) := by
  rcases e.fwd hj nofun with h | ⟨rfl, rfl⟩
  · exact .inl h
  · exact .inr (flags_of_mark e hLen ha hb rfl)

theorem inv_eff (i : Inv s) : Inv s' where
  len := e.len i.len
  u := by
    intro a ha
    obtain ⟨rfl, rfl⟩ | ⟨hat, ha, -⟩ := e.origin ha rfl
    · cases e.next
    · have hUa := i.u a ha
      have held : ∀ j r, pcAt s' j = some r → a ∉ batch r := fun j r hj hab => by
        rcases held_origin e hj hab with ⟨r0, hj, hab⟩ | ⟨h, -⟩
        · exact i.u.not_held ha hj hab
        · exact hUa.1 h
      refine ⟨fun h => ?_, fun h => ?_, Bool.eq_false_iff.mpr fun h => ?_, fun j b => held j (.write b),
        fun j b ok => held j (.mark b ok), fun j b ok => held j (.clear b ok)⟩
      · rcases e.mem_pending h with h | ⟨h, -⟩
        · exact hUa.1 h
        · exact hat h
      · rcases e.mem_log h with h | ⟨b, rfl, hb⟩
        · exact hUa.2.1 h
        · exact i.u.not_held ha e.cur hb
      · rcases (e.comp a).mp h with h | ⟨-, b, ok, rfl, hb⟩
        · rw [hUa.2.2.1] at h; cases h
        · exact i.u.not_held ha e.cur hb
  k := by
    have key : ∀ j r a, pcAt s' j = some r → a ∈ batch r → a ∉ s'.pending := fun j r a hj ha hp => by
      rcases held_origin e hj ha with ⟨r0, hj, ha⟩ | ⟨-, h0⟩
      · rcases e.mem_pending hp with hp | ⟨rfl, rfl⟩
        · exact i.k.not_pending hj ha hp
        · exact i.u.not_held e.cur hj ha
      · rw [h0] at hp; cases hp
    exact ⟨fun j b => key j (.write b), fun j b ok => key j (.mark b ok),
      fun j b ok => key j (.clear b ok)⟩
  h := by
    intro a hc hp
    rcases e.mem_pending hp with hp | ⟨rfl, rfl⟩ <;>
      rcases (e.comp a).mp hc with hc | ⟨-, b, ok, hm, hb⟩
    · exact i.h a hc hp
    · exact i.k.2.1 tid b ok a (hm ▸ e.cur) hb hp
    · rw [(i.u a e.cur).2.2.1] at hc; cases hc
    · cases hm
  g := by
    intro a ha
    by_cases hat : a = tid
    · subst hat
      rw [e.self]
      have := e.cur
      have := i.g a
      have := i.h a
      rw [e.pending] at ha
      cases e.next <;> simp_all
    · rcases e.mem_pending ha with ha | ⟨h, -⟩
      · have hc : comp s a = false := Bool.eq_false_iff.mpr fun hc => i.h a hc ha
        rcases i.g a ha with h | h | h <;> rcases e.other h hat with h' | ⟨⟨⟩, h'⟩
        · exact .inl h'
        · exact .inr (.inl h')
        · exact .inl (by simpa [wokenPc, hc] using h')
        · exact .inr (.inr h')
      · exact (hat h).elim
  f := by
    intro hfl
    rw [e.flush] at hfl
    have hs := e.self
    rcases e.next.flag hfl with h | ⟨rfl, h⟩ | ⟨h0, hp, hq⟩
    · exact .inl ⟨tid, p', hs, h⟩
    · exact .inr ⟨e.pending ▸ h, tid, hs⟩
    · rcases i.f h0 with ⟨j, r, hj, hr⟩ | ⟨hne, j, hj⟩
      · rcases e.fwd hj (by rintro rfl; cases hr) with hj | ⟨rfl, rfl⟩
        · exact .inl ⟨j, r, hj, hr⟩
        · rw [hp] at hr; cases hr
      · rcases e.fwd hj nofun with hj | ⟨rfl, rfl⟩
        · exact .inr ⟨e.pending ▸ (hq hne).1, j, hj⟩
        · exact ((hq hne).2 rfl).elim
  z := by
    intro a ha hc
    have hc0 : comp s a = false := Bool.eq_false_iff.mpr fun h => by
      rw [(e.comp a).mpr (.inl h)] at hc; cases hc
    -- the committer was in the wait loop before, or has just submitted
    have : (pcAt s a = some .waitLock ∨ pcAt s a = some .condWait) ∨ (a = tid ∧ p = .start) := by
      have hcur := e.cur
      rcases ha with ha | ha <;> obtain ⟨rfl, rfl⟩ | ⟨-, ⟨h, -⟩ | ⟨h, -⟩⟩ := e.origin_or_woken ha
      · cases e.next; exact .inr ⟨rfl, rfl⟩
      · exact .inl (.inl h)
      · exact .inl (.inr h)
      · cases e.next; exact .inl (.inl hcur)
      · exact .inl (.inr h)
      · exact .inl (.inr h)
    rcases this with hw | ⟨rfl, rfl⟩
    · obtain ⟨r, hr⟩ : ∃ r, pcAt s a = some r := by rcases hw with h | h <;> exact ⟨_, h⟩
      rcases or_assoc.mpr (i.z a hw hc0) with h | ⟨j, b, ok, hj, hb⟩
      · exact (unwritten_fwd e h).imp_right (.imp_right fun h =>
          h.elim (fun ⟨j, b, h⟩ => ⟨j, b, _, h⟩) fun ⟨⟨j, b, h⟩, _⟩ => ⟨j, b, _, h⟩)
      · rcases marked_fwd e i.len hr hj hb with h | ⟨h, -⟩
        · exact .inr (.inr ⟨j, b, ok, h, hb⟩)
        · rw [h] at hc; cases hc
    · left
      rw [e.pending]
      cases e.next
      simp
  w1 := by
    intro a ha hp
    obtain ⟨rfl, rfl⟩ | ⟨hat, ha, hn⟩ := e.origin ha rfl
    · rw [e.flush]
      rw [e.pending] at hp
      cases e.next
      rename_i h
      rcases h with h | h
      · exact h
      · rw [h] at hp; cases hp
    · rcases e.mem_pending hp with hp | ⟨h, -⟩
      · exact e.flush_keep (i.w1 a ha hp) (hn rfl)
      · exact (hat h).elim
  w2 := by
    intro a ha hc
    have hs := e.self
    obtain ⟨rfl, rfl⟩ | ⟨hat, ha, hn⟩ := e.origin ha rfl
    · rcases (e.comp a).mp hc with h | ⟨-, b, ok, rfl, -⟩
      · cases e.next
        rename_i h0 _
        rw [h0] at h; cases h
      · cases e.next
    · rcases (e.comp a).mp hc with h | ⟨-, b, ok, rfl, hb⟩
      · obtain ⟨j, b, ok, hj, hb⟩ := i.w2 a ha h
        rcases e.fwd hj nofun with hj | ⟨rfl, rfl⟩
        · exact ⟨j, b, ok, hj, hb⟩
        · cases hn rfl
      · cases e.next
        exact ⟨tid, b, ok, hs, hb⟩
  j1 := by
    unfold InvJ1
    rcases e.pending_cases with h' | h' | ⟨rfl, h'⟩ <;> rw [h']
    · exact i.j1
    · exact List.nodup_nil
    · exact List.nodup_append.mpr ⟨i.j1, by simp, by
        intro a ha b hb
        rw [List.mem_singleton.mp hb]
        rintro rfl
        exact (i.u a e.cur).1 ha⟩
  j2 := by
    unfold InvJ2
    rcases e.log_cases with h' | ⟨b, rfl, h'⟩ <;> rw [h']
    · exact i.j2
    · obtain ⟨h1, h2⟩ := i.j3 tid b e.cur
      exact List.nodup_append.mpr ⟨i.j2, h1, fun a ha c hc hac => h2 c hc (hac ▸ ha)⟩
  j3 := by
    intro j b hj
    obtain ⟨rfl, rfl⟩ | ⟨hjt, hj, -⟩ := e.origin hj rfl
    · rw [e.log]
      cases e.next
      exact ⟨i.j1, i.j4⟩
    · refine ⟨(i.j3 j b hj).1, fun a ha hl => ?_⟩
      rcases e.mem_log hl with hl | ⟨b0, rfl, hb0⟩
      · exact (i.j3 j b hj).2 a ha hl
      · exact i.j5 j tid b b0 hjt hj e.cur a ha hb0
  j4 := by
    intro a ha hl
    rcases e.mem_pending ha with ha | ⟨rfl, rfl⟩ <;> rcases e.mem_log hl with hl | ⟨b, hb, hab⟩
    · exact i.j4 a ha hl
    · exact i.k.1 tid b a (hb ▸ e.cur) hab ha
    · exact (i.u a e.cur).2.1 hl
    · cases hb
  j5 := by
    intro i' j bi bj hij hi hj a hai haj
    obtain ⟨rfl, rfl⟩ | ⟨-, hi, -⟩ := e.origin hi rfl <;>
      obtain ⟨rfl, hj'⟩ | ⟨-, hj, -⟩ := e.origin hj rfl
    · exact hij rfl
    · cases e.next
      exact i.k.1 j bj a hj haj hai
    · subst hj'
      cases e.next
      exact i.k.1 i' bi a hi hai haj
    · exact i.j5 i' j bi bj hij hi hj a hai haj
  life := by
    intro a r ha hne
    -- the committer had submitted before, or does so now
    have : (∃ r0, pcAt s a = some r0 ∧ r0 ≠ .start) ∨ (a = tid ∧ p = .start) := by
      rcases e.origin_or_woken ha with ⟨rfl, rfl⟩ | ⟨-, ⟨h, -⟩ | ⟨h, -⟩⟩
      · by_cases hp : p = .start
        · exact .inr ⟨rfl, hp⟩
        · exact .inl ⟨p, e.cur, hp⟩
      · exact .inl ⟨r, h, hne⟩
      · exact .inl ⟨_, h, nofun⟩
    rcases this with ⟨r0, ha0, hr0⟩ | ⟨rfl, rfl⟩
    · rcases or_assoc.mpr (i.life a r0 ha0 hr0) with h | ⟨j, b, hj, hb⟩ | h | h
      · exact (unwritten_fwd e h).imp_right (.imp_right (.imp_right fun h => .inl h.2))
      · rcases marked_fwd e i.len ha0 hj hb with h | ⟨-, h⟩
        · exact .inr (.inr (.inl ⟨j, b, h, hb⟩))
        · exact .inr (.inr (.inr (.inr (h rfl))))
      · exact .inr (.inr (.inr (.inl (e.log_keep h))))
      · exact .inr (.inr (.inr (.inr ((e.err a).mpr (.inl h)))))
    · left
      rw [e.pending]
      cases e.next
      simp
  ml := by
    refine ⟨fun j b a hj ha => ?_, fun j b a hj ha => ?_⟩
    · obtain ⟨rfl, rfl⟩ | ⟨-, hj, -⟩ := e.origin hj rfl
      · rw [e.log]
        cases e.next
        exact List.mem_append_right _ ha
      · exact e.log_keep (i.ml.1 j b a hj ha)
    · obtain ⟨rfl, rfl⟩ | ⟨-, hj, -⟩ := e.origin hj rfl
      · have := e.cur
        cases e.next
        exact e.log_keep (i.ml.1 _ b a this ha)
      · exact e.log_keep (i.ml.2 j b a hj ha)
  l := by
    intro a hc he
    have he0 : err s a = false := Bool.eq_false_iff.mpr fun h => by
      rw [(e.err a).mpr (.inl h)] at he; cases he
    rcases (e.comp a).mp hc with hc | ⟨hlt, b, ok, rfl, hb⟩
    · exact e.log_keep (i.l a hc he0)
    · cases ok with
      | true => exact e.log_keep (i.ml.1 tid b a e.cur hb)
      | false =>
        rw [(e.err a).mpr (.inr ⟨by rw [i.len.2, ← i.len.1]; exact hlt, b, rfl, hb⟩)] at he
        cases he
  v := by
    obtain ⟨v1, v2, v3, v4⟩ := i.v
    have htid : pcAt s tid ≠ none := by rw [e.cur]; nofun
    refine ⟨fun a ha => ?_, fun a ha => ?_, fun j b a hj ha => ?_, fun j b ok a hj ha => ?_⟩ <;>
      apply mt (e.pcAt_eq_none _).mp
    · rcases e.mem_pending ha with ha | ⟨rfl, -⟩
      · exact v1 a ha
      · exact htid
    · rcases e.mem_log ha with ha | ⟨b, rfl, hb⟩
      · exact v2 a ha
      · exact v3 tid b a e.cur hb
    · obtain ⟨rfl, rfl⟩ | ⟨-, hj, -⟩ := e.origin hj rfl
      · cases e.next
        exact v1 a ha
      · exact v3 j b a hj ha
    · obtain ⟨rfl, rfl⟩ | ⟨-, hj, -⟩ := e.origin hj rfl
      · have := e.cur
        cases e.next <;> exact v3 _ b a this ha
      · exact v4 j b ok a hj ha
  mf := by
    intro j b hj
    rw [e.fw]
    obtain ⟨rfl, rfl⟩ | ⟨-, hj, -⟩ := e.origin hj rfl
    · cases e.next
      assumption
    · exact i.mf j b hj
  er := by
    intro a ha
    rcases (e.err a).mp ha with ha | ⟨-, b, rfl, -⟩
    · obtain ⟨j, hj⟩ := i.er a ha
      exact ⟨j, (e.fw j).trans hj⟩
    · exact ⟨tid, (e.fw tid).trans (i.mf tid b e.cur)⟩

end

theorem inv_step {s s' : State} {tid : Nat} (hs : step s tid = some s') (i : Inv s) : Inv s' :=
  have ⟨_, _, _, _, _, e⟩ := step_eff hs
  inv_eff e i

theorem pcAt_init {fails : List Bool} {i : Nat} {pc : Pc} (h : pcAt (init fails) i = some pc) :
    pc = .start := by
  unfold pcAt init at h
  simp only [List.getElem?_map] at h
  cases hq : fails[i]? with
  | none => rw [hq] at h; cases h
  | some f => rw [hq] at h; simp at h; exact h.symm

theorem comp_init (fails : List Bool) (i : Nat) : comp (init fails) i = false := by
  unfold comp init
  simp only [List.getD_eq_getElem?_getD, List.getElem?_map]
  cases fails[i]? <;> rfl

theorem err_init (fails : List Bool) (i : Nat) : err (init fails) i = false := by
  unfold err init
  simp only [List.getD_eq_getElem?_getD, List.getElem?_map]
  cases fails[i]? <;> rfl

theorem inv_init (fails : List Bool) : Inv (init fails) where
  len := by simp [Len, init]
  u a _ := ⟨nofun, nofun, comp_init fails a, fun _ _ h => absurd (pcAt_init h) nofun,
    fun _ _ _ h => absurd (pcAt_init h) nofun, fun _ _ _ h => absurd (pcAt_init h) nofun⟩
  k := ⟨fun _ _ _ h => absurd (pcAt_init h) nofun, fun _ _ _ _ h => absurd (pcAt_init h) nofun,
    fun _ _ _ _ h => absurd (pcAt_init h) nofun⟩
  h a h := by rw [comp_init] at h; cases h
  g := nofun
  f := nofun
  z a h := by rcases h with h | h <;> cases pcAt_init h
  w1 a h := absurd (pcAt_init h) nofun
  w2 a h := absurd (pcAt_init h) nofun
  j1 := List.nodup_nil
  j2 := List.nodup_nil
  j3 j b h := absurd (pcAt_init h) nofun
  j4 := nofun
  j5 i j bi bj _ h := absurd (pcAt_init h) nofun
  life a pc h hne := (hne (pcAt_init h)).elim
  ml := ⟨fun _ _ _ h => absurd (pcAt_init h) nofun, fun _ _ _ h => absurd (pcAt_init h) nofun⟩
  l a h := by rw [comp_init] at h; cases h
  v := ⟨nofun, nofun, fun _ _ _ h => absurd (pcAt_init h) nofun,
    fun _ _ _ _ h => absurd (pcAt_init h) nofun⟩
  mf j b h := absurd (pcAt_init h) nofun
  er a h := by rw [err_init] at h; cases h

theorem inv_reachable (fails : List Bool) (sched : List Nat) : Inv (run (init fails) sched) :=
  run_invariant inv_eff sched (inv_init fails)

end TurVerif.GroupCommit
