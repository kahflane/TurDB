import TurVerif.Lemmas.PageLocks
import TurVerif.Lemmas.PageLocksStep
import TurVerif.Lemmas.Run
/-!
C36: preservation of the invariant `Inv` by every step of the repaired page-lock LTS.  A step sets
one thread and rewrites at most one entry; `stakeOk_set`, `entOk_set`/`entOk_set_other` and `zcOk_set`
carry the three parts of the invariant across such an update, and what is left for each kind of step
(`StepTo`) is the classification of the old and the new pc and arithmetic on one entry.
-/
namespace TurVerif.PageLocks

/-- A mapped entry with ref count 0 in the new state is witnessed by the moving thread, or it was
one before and the moving thread was not its witness. -/
theorem zcOk_set {m m' : List (Nat × Nat)} {ents ents' : List Entry} {ths : List Thread}
    {tid : Nat} {t : Thread} (t' : Thread) (h : ZcOk m ents ths) (ht : ths[tid]? = some t)
    (H : ∀ p e en', (p, e) ∈ m' → ents'[e]? = some en' → en'.refCount = 0 →
      atCleanup p e t'.pc = true ∨
      atCleanup p e t.pc = false ∧ ∃ en, (p, e) ∈ m ∧ ents[e]? = some en ∧ en.refCount = 0) :
    ZcOk m' ents' (ths.set tid t') := by
  intro p e en' hm he hz
  rcases H p e en' hm he hz with hn | ⟨ho, en, hm0, he0, hz0⟩
  · exact countP_pos_of_getElem? (tid := tid) _
      (List.getElem?_set_self (List.getElem?_eq_some_iff.mp ht).1) hn
  · exact Nat.lt_of_lt_of_le (h p e en hm0 he0 hz0) (countP_set_le _ t' ht ho)

theorem zcOk_modify_set {m : List (Nat × Nat)} {ents : List Entry} {ths : List Thread}
    {tid : Nat} {t : Thread} (t' : Thread) {e : Nat} {f : Entry → Entry}
    (h : ZcOk m ents ths) (ht : ths[tid]? = some t)
    (hc : ∀ p0 e0, atCleanup p0 e0 t.pc = false)
    (hf : ∀ en, ents[e]? = some en → (f en).refCount = 0 → en.refCount = 0) :
    ZcOk m (ents.modify e f) (ths.set tid t') :=
  zcOk_set t' h ht fun p0 e0 en' hm he hz => by
    obtain ⟨en, hq, rfl⟩ := getElem?_modify_some he
    refine .inr ⟨hc p0 e0, en, hm, hq, ?_⟩
    by_cases hee : e = e0
    · rw [if_pos hee] at hz; subst hee; exact hf en hq hz
    · rwa [if_neg hee] at hz

/-- a step that rewrites one entry `e` by `f` and leaves the map alone, where neither the old nor
the new pc has a stake in any other entry: of the entries only `e` has to be looked at -/
theorem inv_entryStep {s : State} (h : Inv s) {tid : Nat} {t : Thread} (t' : Thread) {e : Nat}
    {f : Entry → Entry} (ht : s.threads[tid]? = some t)
    (hsk : ∀ p0 e0, stakeOf t'.pc = some (p0, e0) → lookup s.map p0 = some e0)
    (hoth : ∀ e0, e ≠ e0 → stakeIn e0 t.pc = false ∧ stakeIn e0 t'.pc = false)
    (hent : ∀ en, s.entries[e]? = some en → EntOk s.threads e en →
      EntOk (s.threads.set tid t') e (f en))
    (hzc : ZcOk s.map (s.entries.modify e f) (s.threads.set tid t')) :
    Inv (setThread (modEntry s e f) tid t') := by
  refine ⟨h.fx, ⟨h.mp.1, fun x hx => Nat.lt_of_lt_of_eq (h.mp.2 x hx) (List.length_modify ..).symm⟩,
    stakeOk_set tid t' h.sk hsk, fun e0 en' h0 => ?_, hzc⟩
  obtain ⟨en, hq, rfl⟩ := getElem?_modify_some h0
  by_cases hee : e = e0
  · subst hee; rw [if_pos rfl]; exact hent en hq (h.en e en hq)
  · rw [if_neg hee]
    exact entOk_set_other t' ht (h.en e0 en hq) (hoth e0 hee).1 (hoth e0 hee).2

/-- a step that only moves the thread's pc, keeping its stake and its locks: `idle → getOrCreate`,
`acquire → waiting`, and a `cleanup` that does not remove -/
theorem inv_pcOnly {s : State} (h : Inv s) {tid : Nat} {t : Thread} (t' : Thread)
    (ht : s.threads[tid]? = some t)
    (h1 : ∀ e, stakeIn e t'.pc = stakeIn e t.pc ∧ heldW e t'.pc = heldW e t.pc ∧
      heldR e t'.pc = heldR e t.pc)
    (h4 : ∀ p e, stakeOf t'.pc = some (p, e) → stakeOf t.pc = some (p, e))
    (h5 : ∀ p e en, atCleanup p e t.pc = true → (p, e) ∈ s.map → s.entries[e]? = some en →
            en.refCount ≠ 0) :
    Inv (setThread s tid t') := by
  refine ⟨h.fx, h.mp, ?_, ?_, ?_⟩
  · exact stakeOk_set tid t' h.sk fun p e hs => h.sk t (List.mem_of_getElem? ht) p e (h4 p e hs)
  · intro e en he
    exact entOk_set t' ht (h.en e en he) (by rw [(h1 e).1]) (by rw [(h1 e).2.1])
      (by rw [(h1 e).2.2]) (h.en e en he).ex
  · refine zcOk_set t' h.zc ht fun p e en hm he hz => .inr ⟨?_, en, hm, he, hz⟩
    exact Bool.eq_false_iff.mpr fun hc => h5 p e en hc hm he hz

/-- an entry id that does not exist yet has no stake holders -/
theorem entOk_fresh {s : State} (h : Inv s) {e : Nat} (he : s.entries.length ≤ e) :
    EntOk s.threads e { refCount := 0, readers := 0, writer := false } := by
  have hz : ∀ t ∈ s.threads, stakeIn e t.pc = false := fun t ht =>
    Bool.eq_false_iff.mpr fun hs => by
      obtain ⟨p, hp⟩ := stakeOf_of_stakeIn hs
      exact Nat.not_lt.mpr he (h.mp.2 _ (mem_of_lookup (h.sk t ht p e hp)))
  refine ⟨?_, ?_, ?_, nofun⟩
  · exact (List.countP_eq_zero.mpr fun t ht => Bool.eq_false_iff.mp (hz t ht)).symm
  · exact List.countP_eq_zero.mpr fun t ht => Bool.eq_false_iff.mp (heldW_false_of_no_stake (hz t ht))
  · exact List.countP_eq_zero.mpr fun t ht => Bool.eq_false_iff.mp (heldR_false_of_no_stake (hz t ht))

theorem inv_step {s s' : State} {tid : Nat} (h : Inv s) (hs : step s tid = some s') : Inv s' := by
  obtain ⟨⟨prog, pc⟩, ht, hk⟩ := step_cases hs
  have hsk := h.sk _ (List.mem_of_getElem? ht)
  cases hk with
  | start p w rest hpc hprog =>
    subst hpc
    exact inv_pcOnly h _ ht (fun _ => ⟨rfl, rfl, rfl⟩)
      (fun _ _ hs => by cases hs) (fun _ _ _ hc => by cases hc)
  | park p e w hpc =>
    subst hpc
    exact inv_pcOnly h _ ht (fun _ => ⟨rfl, rfl, rfl⟩)
      (fun _ _ hs => by exact hs) (fun _ _ _ hc => by cases hc)
  | keep p e en hpc he hc =>
    subst hpc
    -- the thread is the witness of `(p, e)` only; not removing means that entry is in use or unmapped
    refine inv_pcOnly h _ ht (fun _ => ⟨rfl, rfl, rfl⟩)
      (fun _ _ hs => by cases hs) ?_
    intro p0 e0 en0 hat hm he0 hz
    simp only [atCleanup_cleanup, Bool.and_eq_true, beq_iff_eq] at hat
    obtain ⟨rfl, rfl⟩ := hat
    cases he.symm.trans he0
    exact hc ⟨hz, by rw [h.fx, if_pos rfl]; exact lookup_of_mem h.mp.1 hm⟩
  | hit p e w hpc hl =>
    subst hpc
    -- a new stake in `e`, counted at once
    refine inv_entryStep h _ ht (fun p0 e0 hs => by cases hs; exact hl)
      (fun e0 hne => ⟨rfl, beq_eq_false_iff_ne.mpr hne⟩)
      (fun en _ old => entOk_set _ ht old ?_ ?_ ?_ old.ex)
      (zcOk_modify_set _ h.zc ht (fun _ _ => rfl) (fun _ _ hz => by cases hz))
    · simp only [stakeIn_acquire, toNat_beq_self]; rfl
    · rfl
    · rfl
  | miss p w hpc hl =>
    subst hpc
    -- a fresh entry with count 1 for the thread's new stake, mapped from the unmapped page
    have hlen : ∀ x : Entry, (s.entries ++ [x]).length = s.entries.length + 1 :=
      fun _ => List.length_append
    refine ⟨h.fx, ⟨List.pairwise_cons.mpr ⟨?_, h.mp.1⟩, ?_⟩, ?_, ?_, ?_⟩
    · -- the page is not mapped, and the new entry id is above all mapped ones
      intro a ha
      refine ⟨fun hq => ?_, Nat.ne_of_gt (h.mp.2 _ ha)⟩
      have := lookup_of_mem h.mp.1 ha
      rw [← hq, hl] at this; cases this
    · intro x hx
      refine Nat.lt_of_lt_of_eq ?_ (hlen _).symm
      rcases List.mem_cons.mp hx with hx | hx
      · subst hx; exact Nat.lt_succ_self _
      · exact Nat.lt_succ_of_lt (h.mp.2 _ hx)
    · have hmono : StakeOk ((p, s.entries.length) :: s.map) s.threads := by
        intro t0 ht0 p0 e0 hs
        have := h.sk t0 ht0 p0 e0 hs
        rw [lookup_cons, if_neg]
        · exact this
        · rintro rfl; rw [hl] at this; cases this
      refine stakeOk_set tid _ hmono fun p0 e0 hs => ?_
      cases hs
      show lookup ((p, s.entries.length) :: s.map) p = _
      rw [lookup_cons, if_pos rfl]
    · intro e0 en0 h0
      change (s.entries ++ _)[e0]? = _ at h0
      by_cases hlt : e0 < s.entries.length
      · rw [List.getElem?_append_left hlt] at h0
        exact entOk_set_other _ ht (h.en e0 en0 h0) (rfl)
          (beq_eq_false_iff_ne.mpr (Nat.ne_of_gt hlt))
      · obtain rfl : e0 = s.entries.length := by
          have := (List.getElem?_eq_some_iff.mp h0).1
          rw [hlen] at this
          exact Nat.le_antisymm (Nat.le_of_lt_succ this) (Nat.le_of_not_lt hlt)
        rw [List.getElem?_append_right (Nat.le_refl _), Nat.sub_self] at h0
        cases h0
        refine entOk_set _ ht (entOk_fresh h (Nat.le_refl _)) ?_ ?_ ?_ nofun
        · simp only [stakeIn_acquire, toNat_beq_self]; rfl
        · rfl
        · rfl
    · refine zcOk_set _ h.zc ht fun p0 e0 en' hm he hz => .inr ⟨rfl, ?_⟩
      change (s.entries ++ _)[e0]? = _ at he
      rcases List.mem_cons.mp hm with hm | hm
      · cases hm
        rw [List.getElem?_append_right (Nat.le_refl _), Nat.sub_self] at he
        cases he; cases hz
      · rw [List.getElem?_append_left (h.mp.2 _ hm)] at he
        exact ⟨en', hm, he, hz⟩
  | grant p e w en hpc he hw hr =>
    -- a request in `acquire` and one in `waiting` are classified alike
    obtain ⟨hso, hst, hW, hR, hC⟩ : stakeOf pc = some (p, e) ∧
        (∀ e0, stakeIn e0 pc = (e == e0)) ∧ heldW e pc = false ∧ heldR e pc = false ∧
        ∀ p0 e0, atCleanup p0 e0 pc = false := by
      rcases hpc with rfl | rfl <;> exact ⟨rfl, fun _ => rfl, rfl, rfl, fun _ _ => rfl⟩
    refine inv_entryStep h _ ht (fun p0 e0 hs' => hsk p0 e0 (hso.trans hs'))
      (fun e0 hne => ⟨(hst e0).trans (beq_eq_false_iff_ne.mpr hne), beq_eq_false_iff_ne.mpr hne⟩)
      (fun en' he' old => ?_)
      (zcOk_modify_set _ h.zc ht hC (fun _ _ hz => by cases w <;> exact hz))
    cases he.symm.trans he'
    cases w
    · refine entOk_set _ ht old (by rw [hst]; rfl) (by rw [hW]; rfl) ?_ (fun h' => by cases hw.symm.trans h')
      rw [hR]; show _ = en.readers + (e == e).toNat; rw [toNat_beq_self]; rfl
    · refine entOk_set _ ht old (by rw [hst]; rfl) ?_ (by rw [hR]; rfl) (fun _ => hr rfl)
      rw [hW, hw]; show _ = 0 + (e == e).toNat; rw [toNat_beq_self]; rfl
  | unlock p e w hpc =>
    subst hpc
    -- the holder gives up the lock and keeps its stake
    refine inv_entryStep h _ ht
      (fun p0 e0 hs => hsk p0 e0 (hs))
      (fun e0 hne => ⟨by exact beq_eq_false_iff_ne.mpr hne, beq_eq_false_iff_ne.mpr hne⟩)
      (fun en _ old => ?_)
      (zcOk_modify_set _ h.zc ht (fun _ _ => rfl)
        (fun _ _ hz => by cases w <;> exact hz))
    cases w
    · have hr := old.readers_pos ht (beq_self_eq_true e)
      refine entOk_set _ ht old (rfl) (rfl) ?_
        (fun h' => show en.readers - 1 = 0 by rw [old.ex h'])
      show en.readers - 1 + (e == e).toNat = en.readers
      rw [toNat_beq_self]; exact Nat.sub_add_cancel hr
    · have hw := old.writer_of_heldW ht (beq_self_eq_true e)
      refine entOk_set _ ht old (rfl) ?_ (rfl) nofun
      rw [hw]; show 0 + (e == e).toNat = 1; rw [toNat_beq_self]
  | release p e en hpc he =>
    subst hpc
    -- the new pc has no stake and no lock, and it is `cleanup p e` if the count drops to 0
    generalize hpc' : (if en.refCount = 1 then Pc.cleanup p e else Pc.idle) = pc'
    obtain ⟨hso, hst, hW, hR, hC⟩ : stakeOf pc' = none ∧ (∀ e0, stakeIn e0 pc' = false) ∧
        heldW e pc' = false ∧ heldR e pc' = false ∧ (en.refCount = 1 → atCleanup p e pc' = true) := by
      rw [← hpc']; split
      · exact ⟨rfl, fun _ => rfl, rfl, rfl, fun _ => by
          rw [atCleanup_cleanup, beq_self_eq_true, beq_self_eq_true]; rfl⟩
      · exact ⟨rfl, fun _ => rfl, rfl, rfl, fun h1 => absurd h1 ‹_›⟩
    have hr := (h.en e en he).rc_pos ht (beq_self_eq_true e)
    refine inv_entryStep h _ ht (fun p0 e0 hs' => by cases hso.symm.trans hs')
      (fun e0 hne => ⟨by exact beq_eq_false_iff_ne.mpr hne, hst e0⟩)
      (fun en' he' old => ?_) ?_
    · cases he.symm.trans he'
      refine entOk_set _ ht old ?_ (by rw [hW]; rfl) (by rw [hR]; rfl) old.ex
      rw [hst]; simp only [stakeIn_release, toNat_beq_self]
      exact Nat.sub_add_cancel hr
    · refine zcOk_set _ h.zc ht fun p0 e0 en' hm he' hz => ?_
      obtain ⟨en0, hq, rfl⟩ := getElem?_modify_some he'
      by_cases hee : e = e0
      · subst hee
        cases he.symm.trans hq
        rw [if_pos rfl] at hz
        have hp : p0 = p := key_eq_of_mem h.mp.1 hm
          (mem_of_lookup (hsk p e (rfl)))
        subst hp
        exact .inl (hC (Nat.le_antisymm (Nat.sub_eq_zero_iff_le.mp hz) hr))
      · rw [if_neg hee] at hz
        exact .inr ⟨rfl, en0, hm, hq, hz⟩
  | remove p e en hpc he hc =>
    subst hpc
    -- the map still points at `e`, whose count is 0: nobody has a stake through page `p`
    have hz := hc.1
    have hl : lookup s.map p = some e := by have := hc.2; rwa [h.fx, if_pos rfl] at this
    refine ⟨h.fx, ⟨List.Pairwise.filter _ h.mp.1, fun x hx => h.mp.2 x (List.mem_filter.mp hx).1⟩,
      ?_, ?_, ?_⟩
    · -- only page `p` is unmapped, and its entry `e` has no stake holders
      refine stakeOk_set tid _ (fun t0 ht0 p0 e0 hs => ?_) (fun _ _ hs => by cases hs)
      have hl0 := h.sk t0 ht0 p0 e0 hs
      by_cases hpp : p0 = p
      · subst hpp
        cases hl.symm.trans hl0
        have hc := (h.en e en he).rc
        rw [hz] at hc
        exact absurd (stakeIn_of_stakeOf hs) (List.countP_eq_zero.mp hc.symm t0 ht0)
      · exact (lookup_filter_ne _ _ _ hpp).trans hl0
    · exact fun e0 en0 h0 => entOk_set_other _ ht (h.en e0 en0 h0) (rfl) rfl
    · refine zcOk_set _ h.zc ht fun p0 e0 en0 hm he0 hz0 =>
        .inr ⟨?_, en0, (List.mem_filter.mp hm).1, he0, hz0⟩
      have hne : p0 ≠ p := bne_iff_ne.mp (List.mem_filter.mp hm).2
      rw [atCleanup_cleanup, beq_eq_false_iff_ne.mpr (Ne.symm hne), Bool.false_and]

theorem inv_init (progs : List (List Op)) : Inv (init true progs) := by
  refine ⟨rfl, ⟨List.Pairwise.nil, by intro x hx; cases hx⟩, ?_, ?_, ?_⟩
  · intro t ht p e hs
    simp only [init, List.mem_map] at ht
    obtain ⟨pr, _, rfl⟩ := ht
    cases hs
  · intro e en he
    cases he
  · intro p e en hm
    cases hm

theorem inv_run {s : State} (h : Inv s) (sched : List Nat) : Inv (run s sched) :=
  Run.invariant step run (fun _ => rfl) (fun _ _ _ => rfl) inv_step sched h

theorem inv_reachable (progs : List (List Op)) (sched : List Nat) :
    Inv (run (init true progs) sched) := inv_run (inv_init progs) sched

theorem EntOk.mutex {ths : List Thread} {e : Nat} {en : Entry} (o : EntOk ths e en) :
    ths.countP (fun t => heldW e t.pc) ≤ 1 ∧
      (ths.countP (fun t => heldW e t.pc) = 0 ∨ ths.countP (fun t => heldR e t.pc) = 0) := by
  rw [o.wr, o.rd]
  by_cases hw : en.writer = true
  · rw [if_pos hw]; exact ⟨Nat.le_refl _, Or.inr (o.ex hw)⟩
  · rw [if_neg hw]; exact ⟨Nat.zero_le _, Or.inl rfl⟩

theorem entry_mutex_of_inv {s : State} (h : Inv s) {e : Nat} {en : Entry}
    (he : s.entries[e]? = some en) :
    writerCount s e ≤ 1 ∧ (writerCount s e = 0 ∨ readerCount s e = 0) := (h.en e en he).mutex

/-- all write holders of `page` hold it through the entry the map points at (`hl` also covers an
unmapped page, which nobody holds) -/
theorem writersOf_le {s : State} (h : Inv s) {page e : Nat}
    (hl : ∀ e', lookup s.map page = some e' → e' = e) : writersOf s page ≤ writerCount s e := by
  unfold writersOf writerCount
  rw [← List.countP_eq_length_filter]
  refine List.countP_mono_left fun t ht hf => ?_
  split at hf
  · rename_i p e' hpc
    cases beq_iff_eq.mp hf
    cases hl e' (h.sk t ht _ e' (by rw [hpc]; rfl))
    rw [hpc]; exact beq_self_eq_true _
  · cases hf

theorem readersOf_le {s : State} (h : Inv s) {page e : Nat}
    (hl : ∀ e', lookup s.map page = some e' → e' = e) : readersOf s page ≤ readerCount s e := by
  unfold readersOf readerCount
  rw [← List.countP_eq_length_filter]
  refine List.countP_mono_left fun t ht hf => ?_
  split at hf
  · rename_i p e' hpc
    cases beq_iff_eq.mp hf
    cases hl e' (h.sk t ht _ e' (by rw [hpc]; rfl))
    rw [hpc]; exact beq_self_eq_true _
  · cases hf

/-- lift from entries to pages -/
theorem pageSafe_of_inv {s : State} (h : Inv s) (page : Nat) : pageSafe s page = true := by
  -- the entry `page` is held through; for an unmapped page, an id in which nobody has a stake
  obtain ⟨e, en, o, hl⟩ : ∃ e en, EntOk s.threads e en ∧
      ∀ e', lookup s.map page = some e' → e' = e := by
    cases hl : lookup s.map page with
    | none => exact ⟨_, _, entOk_fresh h (Nat.le_refl _), nofun⟩
    | some e =>
      exact ⟨e, _, h.en e _ (List.getElem?_eq_getElem (h.mp.2 _ (mem_of_lookup hl))),
        fun e' h' => (Option.some.inj h').symm⟩
  have hw := writersOf_le h hl
  have hr := readersOf_le h hl
  have hm := o.mutex
  unfold writerCount at hw
  unfold readerCount at hr
  simp only [pageSafe, Bool.and_eq_true, decide_eq_true_eq, Bool.or_eq_true, beq_iff_eq]
  exact ⟨Nat.le_trans hw hm.1, hm.2.elim (fun h0 => .inl (Nat.le_zero.mp (h0 ▸ hw)))
    (fun h0 => .inr (Nat.le_zero.mp (h0 ▸ hr)))⟩

/-- the lock table is empty when every thread has finished: a mapped entry nobody has a stake in
has count 0, so some thread would be at its `cleanup` -/
theorem map_nil_of_quiescent {s : State} (h : Inv s) (hq : quiescent s = true) : s.map = [] := by
  have hidle : ∀ t ∈ s.threads, t.pc = .idle := fun t ht => by
    have := (List.all_eq_true.mp hq) t ht
    simp only [Bool.and_eq_true, beq_iff_eq] at this
    exact this.1
  cases hm : s.map with
  | nil => rfl
  | cons x m =>
    have hmem : x ∈ s.map := hm ▸ List.mem_cons_self
    have he := List.getElem?_eq_getElem (h.mp.2 _ hmem)
    have hz := h.zc x.1 x.2 _ hmem he ((h.en _ _ he).rc.trans
      (List.countP_eq_zero.mpr fun t ht => by rw [hidle t ht]; exact Bool.false_ne_true))
    rw [List.countP_eq_zero.mpr fun t ht => by rw [hidle t ht]; exact Bool.false_ne_true] at hz
    exact absurd hz (Nat.lt_irrefl 0)

end TurVerif.PageLocks
