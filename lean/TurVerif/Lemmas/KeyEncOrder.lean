import TurVerif.Lemmas.KeyEncFloat
/-! C26: the order theorem `ok_all` (`Ok a b` for well-formed `a`, `b` of the proved domain `vclean`), by
recursion through containers (`elems_ok`, `rest_ok`).  Vectors are the one kind that needs `vclean`. -/
namespace TurVerif.KeyEnc

/-- a vector dimension `encode_vector` handles correctly: an f32 pattern that is neither NaN nor −0.0 -/
def dimOk (d : Nat) : Bool :=
  decide (d < 4294967296) && !isNan32 d && decide (d ≠ 2147483648)

mutual
/-- proved domain: every vector dimension inside the value is `dimOk` -/
def vclean : KVal → Bool
  | .vector ds => ds.all dimOk
  | .array es => vcleanL es
  | .tuple es => vcleanL es
  | .composite _ fs => vcleanL fs
  | .domain _ v => vclean v
  | _ => true
def vcleanL : KList → Bool
  | .nil => true
  | .cons v vs => vclean v && vcleanL vs
end

theorem dimOk_iff (d : Nat) : dimOk d = true ↔
    d < 4294967296 ∧ ¬ d % 2147483648 > 2139095040 ∧ d ≠ 2147483648 := by
  simp [dimOk, isNan32, and_assoc]

/-- on `dimOk` patterns `venc` is the sign-magnitude position shifted up, with a gap of one at zero -/
theorem venc_fpos (a : Nat) (h : dimOk a = true) :
    (a < 2147483648 ∧ venc a = a + 2147483648 ∧ fpos 2147483648 a = a) ∨
    (2147483648 < a ∧ a < 4294967296 ∧ venc a = 4294967295 - a ∧
      fpos 2147483648 a = 2147483648 - (a : Int)) := by
  obtain ⟨h1, h2, h3⟩ := (dimOk_iff a).mp h
  have na : isNan32 a = false := by simp [isNan32]; omega
  unfold venc flipTop fpos
  by_cases hlt : a < 2147483648
  · exact .inl ⟨hlt, by rw [if_neg (by omega), if_pos hlt], by rw [if_pos hlt]⟩
  · exact .inr ⟨by omega, h1, by rw [if_pos ⟨by omega, by simp [na]⟩], by rw [if_neg hlt]; omega⟩

theorem vdec_venc (d : Nat) (h : dimOk d = true) : vdec (venc d) = d := by
  unfold vdec
  rcases venc_fpos d h with ⟨_, e, _⟩ | ⟨_, _, e, _⟩ <;> rw [e] <;> split <;> omega

theorem venc_cmp (a b : Nat) (ha : dimOk a = true) (hb : dimOk b = true) :
    cmpNat (venc a) (venc b) = fcmp32 a b := by
  have na : isNan32 a = false := by simp [isNan32]; have := (dimOk_iff a).mp ha; omega
  have nb : isNan32 b = false := by simp [isNan32]; have := (dimOk_iff b).mp hb; omega
  unfold fcmp32
  rw [na, nb, if_neg (by simp), if_neg (by simp)]
  rcases venc_fpos a ha with ⟨_, ea, pa⟩ | ⟨_, _, ea, pa⟩ <;>
    rcases venc_fpos b hb with ⟨_, eb, pb⟩ | ⟨_, _, eb, pb⟩ <;>
    rw [ea, eb, pa, pb] <;> exact cmpNat_of_cmpInt (by omega) (by omega) (by omega)

theorem vecBody_cmp (a b : List Nat) (r1 r2 : List Nat) (hl : a.length = b.length)
    (ha : a.all dimOk = true) (hb : b.all dimOk = true) :
    lexCmp (vecBody a ++ r1) (vecBody b ++ r2) = (cmpVecDims a b).then (lexCmp r1 r2) := by
  induction a generalizing b with
  | nil => cases b with
    | nil => simp [vecBody, cmpVecDims]
    | cons => simp at hl
  | cons x xs ih =>
    cases b with
    | nil => simp at hl
    | cons y ys =>
      simp only [List.all_cons, Bool.and_eq_true] at ha hb
      simp only [vecBody, cmpVecDims, List.append_assoc]
      rw [be_cmp 4 (venc_lt x ((dimOk_iff x).mp ha.1).1) (venc_lt y ((dimOk_iff y).mp hb.1).1),
        venc_cmp x y ha.1 hb.1, ih ys (by simpa using hl) ha.2 hb.2, Ordering.then_assoc]

theorem vector_vector (x y : List Nat) (ha : wf (.vector x) = true) (hb : wf (.vector y) = true)
    (ca : vclean (.vector x) = true) (cb : vclean (.vector y) = true) (r1 r2 : List Nat) :
    lexCmp (enc (.vector x) ++ r1) (enc (.vector y) ++ r2) =
      ((cmpNat x.length y.length).then (cmpVecDims x y)).then (lexCmp r1 r2) := by
  simp only [wf, decide_eq_true_eq, Bool.and_eq_true] at ha hb
  simp only [vclean] at ca cb
  simp only [enc, List.cons_append, lexCmp_cons_self, List.append_assoc]
  rw [be_cmp 4 ha.2 hb.2, Ordering.then_assoc]
  by_cases hl : x.length = y.length
  · rw [vecBody_cmp x y r1 r2 hl ca cb]
  · exact then_of_ne_eq (fun e => hl (cmpNat_eq_iff.mp e)) _ _

def ElemsOk (a b : KList) : Prop :=
  ∀ r1 r2, lexCmp (encElems a ++ r1) (encElems b ++ r2) = (cmpList a b).then (lexCmp r1 r2)
def RestOk (a b : KList) : Prop :=
  ∀ r1 r2, lexCmp (encRest a ++ r1) (encRest b ++ r2) = (cmpList a b).then (lexCmp r1 r2)

/-- the container terminator `00` sorts before every element, since no rank is `0` -/
theorem zero_lt_enc (v : KVal) (r t : List Nat) :
    lexCmp (0 :: r) (enc v ++ t) = .lt ∧ lexCmp (enc v ++ t) (0 :: r) = .gt := by
  obtain ⟨t1, e⟩ := enc_rank v
  have := rank_ne_zero v
  rw [e, List.cons_append, lexCmp_cons_cons, lexCmp_cons_cons, cmpNat_lt (by omega),
    cmpNat_gt (by omega)]
  exact ⟨rfl, rfl⟩

/-! `ok_all` goes through the kinds of `a`.  Each case unfolds `cmpVal` at a value of that kind and
splits its inner `match`: either `b` is of the same kind, or `cmpVal` compares ranks and `b` is of
another kind (`other_kind`).  Of `wf` only the ranges of the numeric fields and the lengths of
uuid/inet/macaddr are used: text and blob need neither byte values nor UTF-8. -/
mutual
theorem ok_all : (a b : KVal) → wf a = true → wf b = true → vclean a = true → vclean b = true → Ok a b
  | .null, b, _, _, _, _ => head_decides _ _ fun h => by
    have t : KindAt (rank .null) b := h ▸ rank_inv b
    rw [show b = .null from t]
  | .bool x, b, _, _, _, _ => by
    unfold Ok cmpVal
    split
    · next y _ _ => intro r1 r2; cases x <;> cases y <;> simp [enc, cmpNat]
    · next hne => cases x <;> exact other_kind _ _ (not_exists.mpr hne)
  | .int x, b, ha, hb, _, _ => by
    unfold Ok cmpVal
    split
    · exact int_int x _ ha hb
    · next hne =>
      -- `Int 0` shares its rank, and then its whole key, with `Float ±0`
      refine head_decides _ _ fun h => ?_
      have t := rank_inv b
      rcases int_class x with ⟨r, e⟩ | ⟨r, e⟩ | ⟨r, e⟩ <;> rw [← h, r] at t
      case zero => rw [e, show enc b = [0x14] from t]
      all_goals exact absurd t (not_exists.mpr hne)
  | .float x, b, ha, hb, _, _ => by
    unfold Ok cmpVal
    split
    · exact float_float x _ ha hb
    · next hne =>
      refine head_decides _ _ fun h => ?_
      have t := rank_inv b
      rcases float_class x with ⟨_, r, e⟩ | ⟨_, ⟨r, e⟩ | ⟨r, e⟩ | ⟨r, e⟩ | ⟨r, e⟩ | ⟨r, e⟩⟩ <;>
        rw [← h, r] at t
      case zero => rw [e, show enc b = [0x14] from t]
      all_goals exact absurd t (not_exists.mpr hne)
  | .text x, b, _, _, _, _ | .blob x, b, _, _, _, _ => by
    unfold Ok cmpVal
    split
    · intro r1 r2; simp [enc, esc_cmp]
    · next hne => exact other_kind _ _ (not_exists.mpr hne)
  | .date x, b, ha, hb, _, _ | .time x, b, ha, hb, _, _ | .timestamp x, b, ha, hb, _, _ => by
    unfold Ok cmpVal
    split
    · intro r1 r2
      simp only [wf, decide_eq_true_eq] at ha hb
      simp only [enc, List.cons_append, lexCmp_cons_self]
      exact sfield_cmp rfl rfl ha hb r1 r2
    · next hne => exact other_kind _ _ (not_exists.mpr hne)
  | .timestamptz x xz, b, ha, hb, _, _ => by
    unfold Ok cmpVal
    split
    · intro r1 r2
      simp only [wf, decide_eq_true_eq, Bool.and_eq_true] at ha hb
      simp only [enc, List.cons_append, lexCmp_cons_self, List.append_assoc]
      rw [sfield_cmp rfl rfl ha.1 hb.1, sfield_cmp rfl rfl ha.2 hb.2, Ordering.then_assoc]
    · next hne => exact other_kind _ _ (not_exists.mpr fun y => not_exists.mpr (hne y))
  | .interval xm xd xu, b, ha, hb, _, _ => by
    unfold Ok cmpVal
    split
    · intro r1 r2
      simp only [wf, decide_eq_true_eq, Bool.and_eq_true] at ha hb
      simp only [enc, List.cons_append, lexCmp_cons_self, List.append_assoc]
      rw [sfield_cmp rfl rfl ha.1.1 hb.1.1, sfield_cmp rfl rfl ha.1.2 hb.1.2,
        sfield_cmp rfl rfl ha.2 hb.2, Ordering.then_assoc, Ordering.then_assoc]
    · next hne => exact other_kind _ _ (not_exists.mpr fun m => not_exists.mpr fun d => not_exists.mpr (hne m d))
  | .uuid x, b, ha, hb, _, _ | .macaddr x, b, ha, hb, _, _ => by
    unfold Ok cmpVal
    split
    · intro r1 r2
      simp only [wf, decide_eq_true_eq, Bool.and_eq_true] at ha hb
      simp only [enc, List.cons_append, lexCmp_cons_self]
      exact lexCmp_append_eqlen (by omega)
    · next hne => exact other_kind _ _ (not_exists.mpr hne)
  | .inet xv xp xa, b, ha, hb, _, _ => by
    unfold Ok cmpVal
    split
    · next yv yp ya _ =>
      intro r1 r2
      simp only [wf, decide_eq_true_eq, Bool.and_eq_true] at ha hb
      simp only [enc, List.cons_append, lexCmp_cons_cons, cmpNat_self, then_eq']
      -- the family flag byte is `toNat`; addresses of one family have one length
      cases xv <;> cases yv
      · simp only [Bool.toNat_false, Bool.false_eq_true, if_false, cmpNat_self, then_eq']
        rw [lexCmp_append_eqlen (by simp_all), Ordering.then_assoc]
      · rfl
      · rfl
      · simp only [Bool.toNat_true, if_true, cmpNat_self, then_eq']
        rw [lexCmp_append_eqlen (by simp_all), Ordering.then_assoc]
    · next hne => exact other_kind _ _ (not_exists.mpr fun v => not_exists.mpr fun p => not_exists.mpr (hne v p))
  | .enum xt xo, b, ha, hb, _, _ => by
    unfold Ok cmpVal
    split
    · intro r1 r2
      simp only [wf, decide_eq_true_eq, Bool.and_eq_true] at ha hb
      simp only [enc, List.cons_append, lexCmp_cons_self, List.append_assoc]
      rw [be_cmp 4 ha.1 hb.1, be_cmp 4 ha.2 hb.2, Ordering.then_assoc]
    · next hne => exact other_kind _ _ (not_exists.mpr fun t => not_exists.mpr (hne t))
  | .vector x, b, ha, hb, ca, cb => by
    unfold Ok cmpVal
    split
    · exact vector_vector x _ ha hb ca cb
    · next hne => exact other_kind _ _ (not_exists.mpr hne)
  | .array x, b, ha, hb, ca, cb | .tuple x, b, ha, hb, ca, cb => by
    unfold Ok cmpVal
    split
    · next y =>
      intro r1 r2
      simp only [wf, vclean] at ha hb ca cb
      simp only [enc, List.cons_append, lexCmp_cons_self]
      exact elems_ok x y ha hb ca cb r1 r2
    · next hne => exact other_kind _ _ (not_exists.mpr hne)
  | .composite xt x, b, ha, hb, ca, cb => by
    unfold Ok cmpVal
    split
    · next yt y =>
      intro r1 r2
      simp only [wf, vclean, decide_eq_true_eq, Bool.and_eq_true] at ha hb ca cb
      simp only [enc, List.cons_append, lexCmp_cons_self, List.append_assoc]
      rw [be_cmp 4 ha.1 hb.1, Ordering.then_assoc,
        elems_ok x y ha.2 hb.2 ca cb r1 r2]
    · next hne => exact other_kind _ _ (not_exists.mpr fun t => not_exists.mpr (hne t))
  | .domain xt x, b, ha, hb, ca, cb => by
    unfold Ok cmpVal
    split
    · next yt y =>
      intro r1 r2
      simp only [wf, vclean, decide_eq_true_eq, Bool.and_eq_true] at ha hb ca cb
      simp only [enc, List.cons_append, lexCmp_cons_self, List.append_assoc]
      rw [be_cmp 4 ha.1 hb.1, Ordering.then_assoc,
        ok_all x y ha.2 hb.2 ca cb r1 r2]
    · next hne => exact other_kind _ _ (not_exists.mpr fun t => not_exists.mpr (hne t))
theorem elems_ok : (a b : KList) → wfList a = true → wfList b = true →
    vcleanL a = true → vcleanL b = true → ElemsOk a b
  | .nil, .nil, _, _, _, _ => by intro r1 r2; simp [encElems, cmpList]
  | .nil, .cons y ys, _, _, _, _ => by
    intro r1 r2
    simp only [encElems, cmpList, List.cons_append, List.nil_append, List.append_assoc, then_lt']
    exact (zero_lt_enc y _ _).1
  | .cons x xs, .nil, _, _, _, _ => by
    intro r1 r2
    simp only [encElems, cmpList, List.cons_append, List.nil_append, List.append_assoc, then_gt']
    exact (zero_lt_enc x _ _).2
  | .cons x xs, .cons y ys, ha, hb, ca, cb => by
    intro r1 r2
    simp only [wfList, vcleanL, Bool.and_eq_true] at ha hb ca cb
    simp only [encElems, cmpList, List.append_assoc]
    rw [ok_all x y ha.1 hb.1 ca.1 cb.1, rest_ok xs ys ha.2 hb.2 ca.2 cb.2, Ordering.then_assoc]
theorem rest_ok : (a b : KList) → wfList a = true → wfList b = true →
    vcleanL a = true → vcleanL b = true → RestOk a b
  | .nil, .nil, _, _, _, _ => by intro r1 r2; simp [encRest, cmpList]
  | .nil, .cons y ys, _, _, _, _ => by intro r1 r2; simp [encRest, cmpList, cmpNat]
  | .cons x xs, .nil, _, _, _, _ => by intro r1 r2; simp [encRest, cmpList, cmpNat]
  | .cons x xs, .cons y ys, ha, hb, ca, cb => by
    intro r1 r2
    simp only [wfList, vcleanL, Bool.and_eq_true] at ha hb ca cb
    simp only [encRest, cmpList, List.cons_append, lexCmp_cons_self,
      List.append_assoc]
    rw [ok_all x y ha.1 hb.1 ca.1 cb.1, rest_ok xs ys ha.2 hb.2 ca.2 cb.2, Ordering.then_assoc]
end

end TurVerif.KeyEnc
