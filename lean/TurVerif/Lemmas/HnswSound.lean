import TurVerif.Model.Hnsw
import TurVerif.Lemmas.HnswHeap
import TurVerif.Lemmas.HnswCover
/-!
Soundness of the beam search and of the greedy descent, for any node property `P` closed under the
neighbour function and any distance function: what the search context holds and what `finalize`
returns stays inside `P`, carries the right distances, has no node twice and comes out sorted.
-/
namespace TurVerif.HnswSound
open TurVerif.Hnsw TurVerif.HnswHeap TurVerif.HnswCover

/-- invariant of the beam-search context; `P` is any node property closed under the neighbour
function (instantiated with reachability), `dist` the distance function in use -/
structure CInv (P : NodeId → Prop) (dist : NodeId → D) (c : Ctx) : Prop where
  heap : Heap resLe c.results
  nodup : (c.results.map (·.node)).Nodup
  resOK : ∀ x ∈ c.results, x.node ∈ c.visited ∧ x.dist = dist x.node
  candVis : ∀ x ∈ c.cands, x.node ∈ c.visited
  visP : ∀ n ∈ c.visited, P n

section
-- as in `HnswCover`: keeps the unifier from unfolding `heapPush` under a structure instance
attribute [local irreducible] heapPush

variable (P : NodeId → Prop) (getN : NodeId → List NodeId) (dist : NodeId → D)
  (hclosed : ∀ n nb, P n → nb ∈ getN n → P nb)

theorem addBoth_inv (c : Ctx) (x : Cand)
    (h : CInv P dist c) (hx : x.node ∈ c.visited) (hnew : x.node ∉ c.results.map (·.node))
    (hd : x.dist = dist x.node) : CInv P dist ((c.addCand x).addResult x) := by
  have hheap := heapPush_heap resLe_preorder x h.heap
  have hnodup : ((heapPush resLe c.results x).map (·.node)).Nodup :=
    ((heapPush_perm resLe c.results x).map _).nodup_iff.2 (List.nodup_cons.2 ⟨hnew, h.nodup⟩)
  have hres : ∀ y ∈ heapPush resLe c.results x, y.node ∈ c.visited ∧ y.dist = dist y.node :=
    fun y hy => (mem_heapPush.1 hy).elim (fun e => e ▸ ⟨hx, hd⟩) (h.resOK y)
  have hcv : ∀ y ∈ heapPush candLe c.cands x, y.node ∈ c.visited :=
    fun y hy => (mem_heapPush.1 hy).elim (fun e => e ▸ hx) (h.candVis y)
  unfold Ctx.addResult Ctx.addCand
  simp only []
  split
  · split
    · next top rest hp =>
      -- the farthest result is evicted: what is left is a heap on a part of the pushed results
      have ⟨hrest, hperm, _⟩ := heapPop_spec resLe_preorder hheap hp
      exact ⟨hrest, (List.nodup_cons.1 ((hperm.map _).nodup_iff.1 hnodup)).2,
        fun y hy => hres y (hperm.mem_iff.2 (List.mem_cons_of_mem _ hy)), hcv, h.visP⟩
    · exact ⟨hheap, hnodup, hres, hcv, h.visP⟩
  · exact ⟨hheap, hnodup, hres, hcv, h.visP⟩

theorem visitNb_inv (c : Ctx) (nb : NodeId)
    (h : CInv P dist c) (hP : P nb) : CInv P dist (visitNb dist c nb) := by
  unfold visitNb
  split
  · exact h
  · next hnv =>
    have hnv : nb ∉ c.visited := fun hin => hnv (List.contains_iff_mem.2 hin)
    have h' : CInv P dist { c with visited := nb :: c.visited } :=
      ⟨h.heap, h.nodup, fun y hy => ⟨List.mem_cons_of_mem _ (h.resOK y hy).1, (h.resOK y hy).2⟩,
        fun y hy => List.mem_cons_of_mem _ (h.candVis y hy), List.forall_mem_cons.2 ⟨hP, h.visP⟩⟩
    simp only []
    split
    · refine addBoth_inv P dist _ ⟨nb, dist nb⟩ h' (List.mem_cons_self ..) ?_ rfl
      intro hin
      have ⟨y, hy, (e : y.node = nb)⟩ := List.mem_map.1 hin
      exact hnv (e ▸ (h.resOK y hy).1)
    · exact h'

theorem finalize_spec (c : Ctx) (h : CInv P dist c)
    (k : Nat) :
    (finalize c k).Pairwise (fun a b => D.le a.dist b.dist = true) ∧
    ((finalize c k).map (·.node)).Nodup ∧
    ∀ x ∈ finalize c k, P x.node ∧ x.dist = dist x.node := by
  have ⟨l, hperm, hsorted, e⟩ := finalize_eq_take c h.heap k
  rw [e]
  refine ⟨hsorted.sublist (List.take_sublist _ _),
    (((hperm.map (·.node)).nodup_iff).2 h.nodup).sublist ((List.take_sublist _ _).map _), ?_⟩
  intro x hx
  have hx' := h.resOK x (hperm.mem_iff.1 (List.mem_of_mem_take hx))
  exact ⟨h.visP _ hx'.1, hx'.2⟩

include hclosed

theorem beamLoop_inv (fuel : Nat) (c : Ctx) (h : CInv P dist c) :
    CInv P dist (beamLoop getN dist fuel c) := by
  fun_induction beamLoop getN dist fuel c with
  | case1 => exact h
  | case2 => exact h
  | case3 f c cur rest hp =>
    exact ⟨h.heap, h.nodup, h.resOK, fun y hy => h.candVis y
      ((heapPop_perm hp).mem_iff.2 (List.mem_cons_of_mem _ hy)), h.visP⟩
  | case4 f c cur rest hp c' _ ih =>
    have hperm := heapPop_perm hp
    have hcur : P cur.node := h.visP _ (h.candVis cur (hperm.mem_iff.2 (List.mem_cons_self ..)))
    have h' : CInv P dist c' :=
      ⟨h.heap, h.nodup, h.resOK,
        fun y hy => h.candVis y (hperm.mem_iff.2 (List.mem_cons_of_mem _ hy)), h.visP⟩
    exact ih (List.foldlRecOn _ _ h' fun c hc nb hnb =>
      visitNb_inv P dist c nb hc (hclosed cur.node nb hcur hnb))

theorem beamSearch_inv (ef fuel : Nat) (entry : Cand)
    (hPe : P entry.node) (hde : entry.dist = dist entry.node) :
    CInv P dist (beamSearch ef fuel entry getN dist) :=
  beamLoop_inv P getN dist hclosed _ _ <|
    addBoth_inv P dist { ef := ef, visited := [entry.node] } entry
      ⟨heap_nil, List.nodup_nil, nofun, nofun, List.forall_mem_cons.2 ⟨hPe, nofun⟩⟩
      (List.mem_cons_self ..) List.not_mem_nil hde

theorem greedyStep_spec (cur : NodeId) (d : D) (hP : P cur)
    (hd : d = dist cur) :
    P (greedyStep getN dist cur d).1 ∧
      (greedyStep getN dist cur d).2 = dist (greedyStep getN dist cur d).1 := by
  refine List.foldlRecOn (motive := fun b : NodeId × D => P b.1 ∧ b.2 = dist b.1) _ _ ⟨hP, hd⟩
    fun b hb nb hnb => ?_
  simp only []
  split
  · exact ⟨hclosed cur nb hP hnb, rfl⟩
  · exact hb

theorem greedy_spec (fuel : Nat) (cur : NodeId) (d : D) (hP : P cur)
    (hd : d = dist cur) :
    P (greedy getN dist fuel cur d).1 ∧
      (greedy getN dist fuel cur d).2 = dist (greedy getN dist fuel cur d).1 := by
  induction fuel generalizing cur d with
  | zero => exact ⟨hP, hd⟩
  | succ f ih =>
    -- `greedy … (f + 1) cur d` is an `if` on whether the step moved
    by_cases h : (greedyStep getN dist cur d).1 = cur
    · rw [show greedy getN dist (f + 1) cur d = (cur, d) from if_pos h]
      exact ⟨hP, hd⟩
    · have st := greedyStep_spec P getN dist hclosed cur d hP hd
      rw [show greedy getN dist (f + 1) cur d = greedy getN dist f _ _ from if_neg h]
      exact ih _ _ st.1 st.2

end

end TurVerif.HnswSound
