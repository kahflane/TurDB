import TurVerif.Model.Sieve
/-! The SIEVE cache model, one shard.  The invariant `SInv` says that the index is the inverse of the
key column of the entry vector (`Indexes`; distinct keys follow from that), so every operation is
checked against this one relation: `remove` (`swap_remove` with the index fix-up), `insert`, and
entry updates or cleared flags, which leave the key column alone.  The eviction loop only clears
`visited` flags and moves the hand; what evictions do to the entries is `Evicted`. -/
namespace TurVerif.Sieve

theorem alFind_erase (l : List (Key × Nat)) (k q : Key) :
    alFind (alErase l k) q = if q = k then none else alFind l q := by
  fun_induction alErase l k <;> grind [alFind]

theorem alFind_insert (l : List (Key × Nat)) (k q : Key) (v : Nat) :
    alFind (alInsert l k v) q = if q = k then some v else alFind l q := by
  rw [alInsert, alFind, alFind_erase]; grind

theorem exists_last {l : List Entry} {idx : Nat} (h : idx < l.length) :
    ∃ m, l[l.length - 1]? = some m :=
  ⟨_, List.getElem?_eq_getElem (Nat.sub_lt (Nat.zero_lt_of_lt h) Nat.one_pos)⟩

theorem getElem?_swapRemove (l : List Entry) (idx i : Nat) (h : idx < l.length) :
    (swapRemove l idx)[i]? =
      if i < l.length - 1 then l[if i = idx then l.length - 1 else i]? else none := by
  obtain ⟨m, hm⟩ := exists_last h
  simp only [swapRemove, List.getLast?_eq_getElem?, hm, List.getElem?_dropLast, List.length_set,
    List.getElem?_set, h]
  by_cases hi : i = idx
  · simp [hi, hm]
  · simp [hi, Ne.symm hi]

theorem length_swapRemove (l : List Entry) (idx : Nat) (h : idx < l.length) :
    (swapRemove l idx).length + 1 = l.length := by
  obtain ⟨m, hm⟩ := exists_last h
  simp only [swapRemove, List.getLast?_eq_getElem?, hm, List.length_dropLast, List.length_set]
  exact Nat.sub_add_cancel (Nat.zero_lt_of_lt h)

theorem mem_of_mem_swapRemove {l : List Entry} {idx : Nat} (h : idx < l.length) {a : Entry}
    (ha : a ∈ swapRemove l idx) : a ∈ l := by
  obtain ⟨i, hi⟩ := List.mem_iff_getElem?.mp ha
  rw [getElem?_swapRemove l idx i h] at hi
  split at hi
  · exact List.mem_of_getElem? hi
  · cases hi

theorem mem_swapRemove {l : List Entry} {idx : Nat} (h : idx < l.length) {a : Entry} (ha : a ∈ l) :
    l[idx]? = some a ∨ a ∈ swapRemove l idx := by
  obtain ⟨i, hi⟩ := List.mem_iff_getElem?.mp ha
  have hlt := (List.getElem?_eq_some_iff.mp hi).1
  by_cases hii : i = idx
  · exact .inl (hii ▸ hi)
  · refine .inr (List.mem_iff_getElem?.mpr ?_)
    have below : ∀ {j : Nat}, j < l.length → j ≠ l.length - 1 → j < l.length - 1 :=
      fun hj hne => Nat.lt_of_le_of_ne (Nat.le_sub_one_of_lt hj) hne
    by_cases hl : i = l.length - 1
    · exact ⟨idx, by
        rw [getElem?_swapRemove l idx idx h, if_pos (below h (hl ▸ Ne.symm hii)), if_pos rfl, ← hl, hi]⟩
    · exact ⟨i, by rw [getElem?_swapRemove l idx i h, if_pos (below hlt hl), if_neg hii, hi]⟩

/-- the index is the inverse of the key column of the vector -/
def Indexes (index : List (Key × Nat)) (l : List Entry) : Prop :=
  ∀ (k : Key) (i : Nat), alFind index k = some i ↔ ∃ e : Entry, l[i]? = some e ∧ e.key = k

section
variable {index : List (Key × Nat)} {l : List Entry}

theorem Indexes.find (h : Indexes index l) {i : Nat}
    {e : Entry} (he : l[i]? = some e) : alFind index e.key = some i := (h _ _).mpr ⟨e, he, rfl⟩

theorem Indexes.lt (h : Indexes index l) {k : Key}
    {i : Nat} (hf : alFind index k = some i) : i < l.length := by
  obtain ⟨e, he, -⟩ := (h k i).mp hf
  exact (List.getElem?_eq_some_iff.mp he).1

/-- which key sits at position `i`, asked of the index -/
theorem Indexes.key_iff (h : Indexes index l) {i : Nat} {e : Entry} (he : l[i]? = some e) (q : Key) :
    q = e.key ↔ alFind index q = some i := by
  constructor
  · rintro rfl; exact h.find he
  · intro hf
    obtain ⟨a, ha, hk⟩ := (h q i).mp hf
    cases he.symm.trans ha
    exact hk.symm

/-- `swap_remove idx` on positions `0..last`, read backwards: what is at `i` afterwards came from
`if i = idx then last else i`; nothing comes from `idx` -/
theorem swapRemove_pos {idx last i j : Nat} (hl : idx < last) (hj : j ≤ last) :
    (if j = last then some idx else if j = idx then none else some j) = some i ↔
      i < last ∧ j = if i = idx then last else i := by
  grind

theorem swapRemove_pos_last {last i j : Nat} (hj : j ≤ last) :
    (if j = last then none else some j) = some i ↔ i < last ∧ j = if i = last then last else i := by
  grind

/-- `swap_remove` with the index fix-up of `CacheShard::remove` -/
theorem Indexes.remove (h : Indexes index l) {idx : Nat} {e : Entry} (he : l[idx]? = some e) :
    Indexes (match (swapRemove l idx)[idx]? with
      | some m => alInsert (alErase index e.key) m.key idx
      | none => alErase index e.key) (swapRemove l idx) := by
  intro q i
  have hlt : idx < l.length := (List.getElem?_eq_some_iff.mp he).1
  have rhs : (∃ a, (swapRemove l idx)[i]? = some a ∧ a.key = q) ↔
      i < l.length - 1 ∧ alFind index q = some (if i = idx then l.length - 1 else i) := by
    rw [getElem?_swapRemove l idx i hlt, h]
    by_cases hi : i < l.length - 1 <;> simp [hi]
  rw [rhs, getElem?_swapRemove l idx idx hlt, if_pos rfl]
  -- a key is `e.key` (the moved entry's key) iff the old index sends it to `idx` (to `n - 1`);
  -- after that only positions are compared
  have hqe := h.key_iff he q
  have hj := fun j => h.lt (k := q) (i := j)
  by_cases hl : idx < l.length - 1
  · obtain ⟨m, hm⟩ := exists_last hlt
    have hqm := h.key_iff hm q
    simp only [hl, if_true, hm, alFind_insert, alFind_erase, hqe, hqm]
    cases hF : alFind index q with
    | none => simp
    | some j =>
      simp only [Option.some.injEq]
      exact swapRemove_pos hl (Nat.le_sub_one_of_lt (hj j hF))
  · cases Nat.le_antisymm (Nat.le_sub_one_of_lt hlt) (Nat.not_lt.mp hl)
    simp only [hl, if_false, alFind_erase, hqe]
    cases hF : alFind index q with
    | none => simp
    | some j =>
      simp only [Option.some.injEq]
      exact swapRemove_pos_last (Nat.le_sub_one_of_lt (hj j hF))

/-- a fresh key appended to the vector and entered in the index (`CacheShard::insert`) -/
theorem Indexes.insert (h : Indexes index l) {e : Entry}
    (hk : ∀ a ∈ l, a.key ≠ e.key) : Indexes (alInsert index e.key l.length) (l ++ [e]) := by
  intro q i
  rw [alFind_insert]
  constructor
  · split
    · rintro ⟨rfl⟩; exact ⟨e, List.getElem?_concat_length, ‹q = e.key›.symm⟩
    · intro hf
      obtain ⟨a, ha, hak⟩ := (h q i).mp hf
      exact ⟨a, by rw [List.getElem?_append_left (h.lt hf)]; exact ha, hak⟩
  · rintro ⟨a, ha, rfl⟩
    rw [List.getElem?_append] at ha
    split at ha
    · rw [if_neg (hk a (List.mem_of_getElem? ha))]; exact h.find ha
    · simp only [List.getElem?_singleton] at ha
      split at ha
      · cases ha; rw [if_pos rfl]; congr 1; omega
      · cases ha

/-- `Indexes` sees the vector only through its key column -/
theorem Indexes.congr {l' : List Entry} (h : Indexes index l)
    (hk : l'.map (·.key) = l.map (·.key)) : Indexes index l' := by
  intro q i
  have key : ∀ m : List Entry,
      (∃ e, m[i]? = some e ∧ e.key = q) ↔ (m.map (·.key))[i]? = some q := by simp
  rw [h, key, key, hk]

end

structure SInv (sh : Shard) : Prop where
  uniq : ∀ (i j : Nat) (e1 e2 : Entry), sh.entries[i]? = some e1 → sh.entries[j]? = some e2 → e1.key = e2.key → i = j
  idx : ∀ (k : Key) (i : Nat), alFind sh.index k = some i ↔ ∃ e : Entry, sh.entries[i]? = some e ∧ e.key = k
  hand : sh.hand = 0 ∨ sh.hand < sh.entries.length

/-- an index inverse to the key column forces the keys to be distinct -/
theorem SInv.of_idx {sh : Shard} (idx : Indexes sh.index sh.entries)
    (hand : sh.hand = 0 ∨ sh.hand < sh.entries.length) : SInv sh :=
  ⟨fun _ _ _ _ h1 h2 hk => Option.some.inj <| (idx.find h1).symm.trans (hk ▸ idx.find h2), idx, hand⟩

theorem SInv.indexes {sh : Shard} (h : SInv sh) : Indexes sh.index sh.entries := h.idx

theorem sinv_empty (cap : Nat) : SInv (Shard.empty cap) :=
  .of_idx (by simp [Indexes, Shard.empty, alFind]) (.inl rfl)

theorem remove_sinv {sh sh' : Shard} {idx : Nat} (h : SInv sh) (hr : remove sh idx = some sh') :
    SInv sh' ∧ sh'.cap = sh.cap ∧ sh'.entries = swapRemove sh.entries idx := by
  unfold remove at hr
  cases he : sh.entries[idx]? with
  | none => simp [he] at hr
  | some e =>
    have hlt : idx < sh.entries.length := (List.getElem?_eq_some_iff.mp he).1
    simp only [he, Option.some.injEq] at hr
    subst hr
    refine ⟨.of_idx (h.indexes.remove he) ?_, rfl, rfl⟩
    have := h.hand
    have := length_swapRemove _ _ hlt
    dsimp only
    split <;> omega

/-- `l'` is `l` up to the `visited` flags -/
def Flagged (l l' : List Entry) : Prop :=
  l'.length = l.length ∧
  ∀ (i : Nat) (e' : Entry), l'[i]? = some e' →
    ∃ e : Entry, l[i]? = some e ∧ e'.key = e.key ∧ e'.pin = e.pin ∧ e'.data = e.data ∧ e'.dirty = e.dirty

theorem Flagged.refl (l : List Entry) : Flagged l l := ⟨rfl, fun _ e h => ⟨e, h, rfl, rfl, rfl, rfl⟩⟩

theorem Flagged.trans {a b c : List Entry} (h1 : Flagged a b) (h2 : Flagged b c) : Flagged a c := by
  refine ⟨h2.1.trans h1.1, fun i e' h => ?_⟩
  obtain ⟨e, he, k1, k2, k3, k4⟩ := h2.2 i e' h
  obtain ⟨e0, he0, j1, j2, j3, j4⟩ := h1.2 i e he
  exact ⟨e0, he0, k1.trans j1, k2.trans j2, k3.trans j3, k4.trans j4⟩

theorem flagged_set (l : List Entry) (i : Nat) (e : Entry) (h : l[i]? = some e) :
    Flagged l (l.set i { e with visited := false }) := by
  refine ⟨by simp, fun j e' hj => ?_⟩
  rw [List.getElem?_set] at hj
  split at hj
  · subst_vars
    split at hj
    · injection hj with hj; subst hj; exact ⟨e, h, rfl, rfl, rfl, rfl⟩
    · cases hj
  · exact ⟨e', hj, rfl, rfl, rfl, rfl⟩

/-- the eviction loop only clears visited flags and moves the hand; it never indexes out of
    range; a victim is the unpinned entry under the hand -/
theorem evictLoop_spec {start f : Nat} {sh sh' : Shard} {checked : Bool} {r : EvictRes}
    (hr : evictLoop start f sh checked = (sh', r)) (hh : sh.hand < sh.entries.length) :
    Flagged sh.entries sh'.entries ∧ sh'.index = sh.index ∧ sh'.cap = sh.cap ∧
    sh'.hand < sh'.entries.length ∧ r ≠ .oob ∧
    ∀ k d, r = .victim k d → ∃ e : Entry, sh'.entries[sh'.hand]? = some e ∧ e.key = k ∧ e.pin = 0 := by
  fun_induction evictLoop start f sh checked with
  | case1 => cases hr; exact ⟨.refl _, rfl, rfl, hh, nofun, nofun⟩
  | case2 _ _ _ hnone => exact absurd (List.getElem?_eq_none_iff.mp hnone) (Nat.not_le.mpr hh)
  | case3 =>
    obtain ⟨rfl, rfl⟩ := Prod.mk.inj hr
    exact ⟨.refl _, rfl, rfl, Nat.mod_lt _ (Nat.zero_lt_of_lt hh), nofun, nofun⟩
  | case4 _ _ _ _ _ _ _ _ _ ih => exact ih hr (Nat.mod_lt _ (Nat.zero_lt_of_lt hh))
  | case5 _ _ _ _ _ _ _ _ ih => exact ih hr (Nat.mod_lt _ (Nat.zero_lt_of_lt hh))
  | case6 _ _ _ e he _ _ ih =>
    obtain ⟨a1, a⟩ := ih hr (by simpa using Nat.mod_lt _ (Nat.zero_lt_of_lt hh))
    exact ⟨(flagged_set _ _ e he).trans a1, a⟩
  | case7 _ _ _ e he hp =>
    cases hr
    exact ⟨.refl _, rfl, rfl, hh, nofun,
      fun k d hk => ⟨e, he, (EvictRes.victim.inj hk).1, Nat.eq_zero_of_not_pos hp⟩⟩

theorem Flagged.map_key {l l' : List Entry} (h : Flagged l l') :
    l'.map (·.key) = l.map (·.key) := by
  apply List.ext_getElem?
  intro i
  rw [List.getElem?_map, List.getElem?_map]
  cases h' : l'[i]? with
  | none => rw [List.getElem?_eq_none (h.1 ▸ List.getElem?_eq_none_iff.mp h')]
  | some e' =>
    obtain ⟨e, he, hk, -⟩ := h.2 i e' h'
    rw [he]; exact congrArg some hk

theorem sinv_flagged {sh sh' : Shard} (h : SInv sh) (hf : Flagged sh.entries sh'.entries)
    (hi : sh'.index = sh.index) (hh : sh'.hand = 0 ∨ sh'.hand < sh'.entries.length) : SInv sh' :=
  .of_idx (hi ▸ h.indexes.congr hf.map_key) hh

theorem setEntry_sinv {sh : Shard} {idx : Nat} {e e' : Entry} (h : SInv sh)
    (he : sh.entries[idx]? = some e) (hk : e'.key = e.key) :
    SInv { sh with entries := sh.entries.set idx e' } := by
  refine .of_idx (h.indexes.congr (List.ext_getElem? fun i => ?_)) (by simpa using h.hand)
  simp only [List.getElem?_map, List.getElem?_set]
  split
  · subst_vars; rw [if_pos (List.getElem?_eq_some_iff.mp he).1, he]; exact congrArg some hk
  · rfl

/-- pinned entries survive with key and contents, and stay pinned -/
def PinnedKept (l l' : List Entry) : Prop :=
  ∀ e ∈ l, 0 < e.pin → ∃ e' ∈ l', e'.key = e.key ∧ e'.data = e.data ∧ e.pin ≤ e'.pin

theorem PinnedKept.refl (l : List Entry) : PinnedKept l l :=
  fun e he _ => ⟨e, he, rfl, rfl, Nat.le_refl _⟩

theorem PinnedKept.trans {a b c : List Entry} (h1 : PinnedKept a b) (h2 : PinnedKept b c) :
    PinnedKept a c := by
  intro e he hp
  obtain ⟨e1, m1, k1, d1, p1⟩ := h1 e he hp
  obtain ⟨e2, m2, k2, d2, p2⟩ := h2 e1 m1 (Nat.lt_of_lt_of_le hp p1)
  exact ⟨e2, m2, k2.trans k1, d2.trans d1, Nat.le_trans p1 p2⟩

theorem pinnedKept_set {l : List Entry} {idx : Nat} {e e' : Entry} (he : l[idx]? = some e)
    (hk : e'.key = e.key) (hd : e'.data = e.data) (hp : e.pin ≤ e'.pin) :
    PinnedKept l (l.set idx e') := by
  intro a ha _
  obtain ⟨i, hi⟩ := List.mem_iff_getElem?.mp ha
  by_cases hii : idx = i
  · subst hii
    cases he.symm.trans hi
    exact ⟨e', List.mem_iff_getElem?.mpr ⟨idx, List.getElem?_set_self (List.getElem?_eq_some_iff.mp he).1⟩,
      hk, hd, hp⟩
  · exact ⟨a, List.mem_iff_getElem?.mpr ⟨i, by rw [List.getElem?_set_ne hii]; exact hi⟩,
      rfl, rfl, Nat.le_refl _⟩

def Good (sh : Shard) : Prop := SInv sh ∧ sh.entries.length ≤ sh.cap

theorem touch_spec {sh : Shard} (idx : Nat) (h : Good sh) :
    Good (touch sh idx) ∧ (touch sh idx).entries.length = sh.entries.length ∧
    PinnedKept sh.entries (touch sh idx).entries := by
  unfold touch
  split
  · exact ⟨h, rfl, .refl _⟩
  · rename_i e he
    exact ⟨⟨setEntry_sinv h.1 he rfl, by simpa using h.2⟩, by simp,
      pinnedKept_set he rfl rfl (Nat.le_succ _)⟩

theorem insert_spec {sh : Shard} (e : Entry) (h : SInv sh) (hk : ∀ a ∈ sh.entries, a.key ≠ e.key)
    (hl : sh.entries.length < sh.cap) :
    Good (insert sh e) ∧ (insert sh e).entries.length = sh.entries.length + 1 ∧
    PinnedKept sh.entries (insert sh e).entries := by
  have hlen : (insert sh e).entries.length = sh.entries.length + 1 := List.length_append
  refine ⟨⟨.of_idx (h.indexes.insert hk) (.inr ?_), hlen ▸ hl⟩, hlen,
    fun a ha _ => ⟨a, List.mem_append_left _ ha, rfl, rfl, Nat.le_refl _⟩⟩
  rcases h.hand with h0 | h1
  · exact h0 ▸ hlen ▸ Nat.succ_pos _
  · exact hlen ▸ Nat.lt_succ_of_lt h1

/-- what any number of evictions (none included) and changes of `visited` flags do to a shard:
a preorder, see `Evicted.refl`, `Evicted.trans` -/
structure Evicted (sh sh' : Shard) : Prop where
  cap : sh'.cap = sh.cap
  kept : PinnedKept sh.entries sh'.entries
  noNew : ∀ e' ∈ sh'.entries, ∃ e ∈ sh.entries, e'.key = e.key
  len : sh'.entries.length ≤ sh.entries.length

theorem Evicted.refl (sh : Shard) : Evicted sh sh :=
  ⟨rfl, .refl _, fun e he => ⟨e, he, rfl⟩, Nat.le_refl _⟩

theorem Evicted.trans {a b c : Shard} (h1 : Evicted a b) (h2 : Evicted b c) : Evicted a c := by
  refine ⟨h2.cap.trans h1.cap, h1.kept.trans h2.kept, fun e he => ?_, Nat.le_trans h2.len h1.len⟩
  obtain ⟨e1, m1, k1⟩ := h2.noNew e he
  obtain ⟨e0, m0, k0⟩ := h1.noNew e1 m1
  exact ⟨e0, m0, k1.trans k0⟩

theorem Evicted.absent {sh sh' : Shard} {k : Key} (h : Evicted sh sh')
    (hk : ∀ a ∈ sh.entries, a.key ≠ k) : ∀ a ∈ sh'.entries, a.key ≠ k := fun a ha => by
  obtain ⟨a0, m0, k0⟩ := h.noNew a ha
  exact k0 ▸ hk a0 m0

theorem Evicted.good {sh sh' : Shard} (h : Evicted sh sh') (hg : Good sh) (hs : SInv sh') :
    Good sh' := ⟨hs, h.cap ▸ Nat.le_trans h.len hg.2⟩

theorem Evicted.of_flagged {sh sh' : Shard} (hf : Flagged sh.entries sh'.entries)
    (hc : sh'.cap = sh.cap) : Evicted sh sh' := by
  refine ⟨hc, fun e he _ => ?_, fun e' he' => ?_, Nat.le_of_eq hf.1⟩
  · obtain ⟨i, hi⟩ := List.mem_iff_getElem?.mp he
    obtain ⟨e', he'⟩ : ∃ e', sh'.entries[i]? = some e' :=
      ⟨_, List.getElem?_eq_getElem (hf.1 ▸ (List.getElem?_eq_some_iff.mp hi).1)⟩
    obtain ⟨a, ha, k1, k2, k3, -⟩ := hf.2 i e' he'
    cases hi.symm.trans ha
    exact ⟨e', List.mem_of_getElem? he', k1, k3, Nat.le_of_eq k2.symm⟩
  · obtain ⟨i, hi⟩ := List.mem_iff_getElem?.mp he'
    obtain ⟨a, ha, k1, -⟩ := hf.2 i e' hi
    exact ⟨a, List.mem_of_getElem? ha, k1⟩

theorem Evicted.of_remove {sh sh' : Shard} {idx : Nat} {e : Entry} (he : sh.entries[idx]? = some e)
    (hp : e.pin = 0) (hc : sh'.cap = sh.cap) (hs : sh'.entries = swapRemove sh.entries idx) :
    Evicted sh sh' ∧ sh'.entries.length + 1 = sh.entries.length := by
  have hlt : idx < sh.entries.length := (List.getElem?_eq_some_iff.mp he).1
  have hlen : sh'.entries.length + 1 = sh.entries.length := hs ▸ length_swapRemove _ _ hlt
  refine ⟨⟨hc, fun a ha hpa => ?_, fun a ha => ⟨a, mem_of_mem_swapRemove hlt (hs ▸ ha), rfl⟩,
    hlen ▸ Nat.le_succ _⟩, hlen⟩
  rcases mem_swapRemove hlt ha with hv | hin
  · cases he.symm.trans hv; exact absurd hp (Nat.ne_of_gt hpa)
  · exact ⟨a, hs ▸ hin, rfl, rfl, Nat.le_refl _⟩

theorem evict_spec {sh sh' : Shard} {r : EvictRes} (h : SInv sh) (hr : evict sh = (sh', r)) :
    SInv sh' ∧ Flagged sh.entries sh'.entries ∧ sh'.cap = sh.cap ∧ r ≠ .oob ∧
    ∀ k d, r = .victim k d → ∃ e : Entry, sh'.entries[sh'.hand]? = some e ∧ e.key = k ∧ e.pin = 0 := by
  unfold evict at hr
  split at hr
  · cases hr; exact ⟨h, .refl _, rfl, nofun, nofun⟩
  · rename_i hne
    have hh : sh.hand < sh.entries.length := by
      rcases h.hand with h0 | h1
      · exact h0 ▸ List.length_pos_iff.mpr fun e => hne (e ▸ rfl)
      · exact h1
    obtain ⟨a1, a2, a3, a4, a5⟩ := evictLoop_spec hr hh
    exact ⟨sinv_flagged h a1 a2 (.inr a4), a1, a3, a5⟩
end TurVerif.Sieve
