import TurVerif.Model.Record
import TurVerif.Lemmas.Cursor
/-!
Lemmas about the record model (`TurVerif.Record`) for C31: what `setRow` leaves in a new builder, the
NULL bitmap, where the parts of the record lie that `build` makes of any well-shaped builder state
(given by cursors, `build_layout`), and the getters read off that layout.  `Shape` and `RowOk` are
defined by recursion; the proofs about them go by functional induction on these definitions.
-/
namespace TurVerif.C31
open TurVerif.Record

/-- builder state of the right shape for the schema: one cell per column, a fixed cell holds
exactly its column width (invariant of every reachable builder state) -/
def Shape : List ColKind → List Cell → Prop
  | [], [] => True
  | .fixed n :: ks, c :: cs => c.bytes.length = n ∧ Shape ks cs
  | .var :: ks, _ :: cs => Shape ks cs
  | _, _ => False

theorem shape_length {s : List ColKind} {st : List Cell} (h : Shape s st) : st.length = s.length := by
  -- cases of `Shape`, here and below: 1 both empty, 2 fixed column, 3 variable column, 4 mismatch
  fun_induction Shape s st with
  | case1 => rfl
  | case2 n ks c cs ih => simp [ih h.2]
  | case3 ks c cs ih => simp [ih h]
  | case4 => exact h.elim

theorem shape_modify {s : List ColKind} {st : List Cell} (h : Shape s st) (i : Nat) (f : Cell → Cell)
    (hf : ∀ c, (f c).bytes.length = c.bytes.length ∨ s[i]? = some .var) : Shape s (st.modify i f) := by
  fun_induction Shape s st generalizing i with
  | case1 => simp [Shape]
  | case2 n ks c cs ih =>
    cases i with
    | zero => exact ⟨by simpa [h.1] using hf c, h.2⟩
    | succ j => exact ⟨h.1, ih h.2 j (by simpa using hf)⟩
  | case3 ks c cs ih =>
    cases i with
    | zero => exact h
    | succ j => exact ih h j (by simpa using hf)
  | case4 => exact h.elim

theorem rowOk_length {s : List ColKind} {row : List (Option (List Nat))} (h : RowOk s row) :
    row.length = s.length := by
  -- cases of `RowOk`, here and below: 1 both empty, 2 value in a fixed column, 3 value in a variable
  -- column, 4 NULL, 5 mismatch
  fun_induction RowOk s row with
  | case1 => rfl
  | case2 n ks b r ih => simp [ih h.2]
  | case3 ks b r ih => simp [ih h]
  | case4 k ks r ih => simp [ih h]
  | case5 => exact h.elim

/-- the cell a value leaves in a new builder -/
def cellOf (k : ColKind) : Option (List Nat) → Cell
  | none => newCell k
  | some b => ⟨false, b⟩

/-- the cells after setting a row into a new builder -/
def cellsOf (s : List ColKind) (row : List (Option (List Nat))) : List Cell := List.zipWith cellOf s row

@[simp] theorem cellsOf_cons (k : ColKind) (ks : List ColKind) (o : Option (List Nat))
    (r : List (Option (List Nat))) : cellsOf (k :: ks) (o :: r) = cellOf k o :: cellsOf ks r := rfl

theorem modify_append_at {α : Type} (pre : List α) (c : α) (cs : List α) (f : α → α) :
    (pre ++ c :: cs).modify pre.length f = pre ++ f c :: cs := by
  induction pre with
  | nil => simp
  | cons a as ih => simp [List.modify_succ_cons, ih]

theorem setBytes_new {spre ks : List ColKind} {pre rest : List Cell} (k : ColKind) (b : List Nat)
    (hk : ∀ n, k = .fixed n → b.length = n) (hl : pre.length = spre.length) :
    setBytes (spre ++ k :: ks) (pre ++ newCell k :: rest) spre.length b = pre ++ ⟨false, b⟩ :: rest := by
  have hidx : (spre ++ k :: ks)[spre.length]? = some k := by simp
  rw [setBytes, hidx, ← hl]
  cases k <;> simp [modify_append_at, newCell, hk]

theorem setRow_new_aux {ks : List ColKind} {row : List (Option (List Nat))} (h : RowOk ks row) :
    ∀ (spre : List ColKind) (pre : List Cell), pre.length = spre.length →
    setRow (spre ++ ks) row spre.length (pre ++ new ks) = pre ++ cellsOf ks row := by
  fun_induction RowOk ks row with
  | case1 => intro spre pre _; simp [setRow, cellsOf, new]
  | case2 n ks b r ih =>
    intro spre pre hl
    rw [setRow, new, List.map_cons, setBytes_new _ b (by simp [h.1]) hl]
    have := ih h.2 (spre ++ [.fixed n]) (pre ++ [⟨false, b⟩]) (by simp [hl])
    simpa [cellsOf, cellOf, new] using this
  | case3 ks b r ih =>
    intro spre pre hl
    rw [setRow, new, List.map_cons, setBytes_new _ b (by simp) hl]
    have := ih h (spre ++ [.var]) (pre ++ [⟨false, b⟩]) (by simp [hl])
    simpa [cellsOf, cellOf, new] using this
  | case4 k ks r ih =>
    intro spre pre hl
    rw [setRow, setNull, new, List.map_cons, ← hl, modify_append_at, hl]
    have := ih h (spre ++ [k]) (pre ++ [newCell k]) (by simp [hl])
    cases k <;> simpa [cellsOf, cellOf, newCell, new] using this
  | case5 => exact h.elim

theorem setRow_new {s : List ColKind} {row : List (Option (List Nat))} (h : RowOk s row) :
    setRow s row 0 (new s) = cellsOf s row := by
  simpa using setRow_new_aux h [] [] rfl

/-- value of a little-endian list of binary digits -/
def bitsVal : List Nat → Nat
  | [] => 0
  | b :: bs => b + 2 * bitsVal bs

theorem bitsVal_digit : ∀ (l : List Nat) (j : Nat), (∀ b ∈ l, b ≤ 1) →
    bitsVal l / 2 ^ j % 2 = l.getD j 0
  | [], j, _ => by simp [bitsVal]
  | b :: bs, 0, h => by
    have := h b (by simp)
    simp only [bitsVal, Nat.pow_zero, Nat.div_one, List.getD_cons_zero]; omega
  | b :: bs, j + 1, h => by
    have := h b (by simp)
    rw [bitsVal, Nat.pow_succ', ← Nat.div_div_eq_div_mul,
      show (b + 2 * bitsVal bs) / 2 = bitsVal bs by omega, List.getD_cons_succ]
    exact bitsVal_digit bs j fun x hx => h x (by simp [hx])

theorem packByte_bit (fl : List Bool) (i : Nat) :
    packByte fl (i / 8) / 2 ^ (i % 8) % 2 = bit (fl.getD i false) := by
  -- `packByte fl k` is the binary numeral with digits `bit (fl.getD (8 * k + j) false)`, `j < 8`
  have hp : packByte fl (i / 8)
      = bitsVal ((List.range 8).map fun j => bit (fl.getD (8 * (i / 8) + j) false)) := by
    simp only [packByte, bitsVal, List.range, List.range.loop, List.map, Nat.add_zero]; omega
  have hj : i % 8 < 8 := Nat.mod_lt _ (by decide)
  rw [hp, bitsVal_digit _ _ (by simp only [List.mem_map]; rintro _ ⟨_, _, rfl⟩; unfold bit; split <;> decide),
    List.getD_eq_getElem?_getD, List.getElem?_map, List.getElem?_range hj, Option.map_some,
    Option.getD_some, Nat.div_add_mod]

theorem _root_.TurVerif.At.slice {data bs r : List Nat} {off n : Nat} (h : At data off (bs ++ r))
    (hn : bs.length = n) : Record.slice data off n = some bs := by
  simp [Record.slice, h.take_drop hn]

theorem _root_.TurVerif.At.rd16 {data r : List Nat} {off v : Nat} (h : At data off (le16 v ++ r))
    (hv : v < 65536) : Record.rd16 data off = some v := by
  rw [Record.rd16, h.slice (n := 2) rfl]
  simp only [le16, Option.some.injEq]
  omega

theorem _root_.TurVerif.At.byte {data l r : List Nat} {off j : Nat} (h : At data off (l ++ r))
    (hj : j < l.length) : Record.slice data (off + j) 1 = some [l[j]] := by
  have e : l.take j ++ ([l[j]] ++ (l.drop (j + 1) ++ r)) = l ++ r := by
    rw [← List.append_assoc [l[j]], List.singleton_append, ← List.drop_eq_getElem_cons hj,
      ← List.append_assoc, List.take_append_drop]
  rw [← e] at h
  exact (h.adv (List.length_take_of_le (Nat.le_of_lt hj))).slice rfl

section equations
variable {ks : List ColKind} {cs : List Cell} {c : Cell} {n : Nat}

@[simp] theorem varCells_fixed : varCells (.fixed n :: ks) (c :: cs) = varCells ks cs := rfl
@[simp] theorem varCells_var : varCells (.var :: ks) (c :: cs) = c.bytes :: varCells ks cs := rfl
@[simp] theorem fixedArea_fixed : fixedArea (.fixed n :: ks) (c :: cs) = c.bytes ++ fixedArea ks cs := rfl
@[simp] theorem fixedArea_var : fixedArea (.var :: ks) (c :: cs) = fixedArea ks cs := rfl
@[simp] theorem varCount_fixed : varCount (.fixed n :: ks) = varCount ks := rfl
@[simp] theorem varCount_var : varCount (.var :: ks) = varCount ks + 1 := rfl
@[simp] theorem varIndex_succ_fixed (j : Nat) : varIndex (.fixed n :: ks) (j + 1) = varIndex ks j := rfl
@[simp] theorem varIndex_succ_var (j : Nat) : varIndex (.var :: ks) (j + 1) = varIndex ks j + 1 := rfl

end equations

section rowOk
variable {s : List ColKind} {row : List (Option (List Nat))}

theorem cellOf_null (k : ColKind) (o : Option (List Nat)) : (cellOf k o).null = o.isNone := by
  cases o <;> cases k <;> rfl

theorem shape_cellsOf (h : RowOk s row) : Shape s (cellsOf s row) := by
  fun_induction RowOk s row with
  | case1 => trivial
  | case2 n ks b r ih => exact ⟨h.1, ih h.2⟩
  | case3 ks b r ih => exact ih h
  | case4 k ks r ih =>
    cases k with
    | fixed n => exact ⟨by simp [cellOf, newCell], ih h⟩
    | var => exact ih h
  | case5 => exact h.elim

theorem cellsOf_get {i : Nat} {k : ColKind} {o : Option (List Nat)} (hk : s[i]? = some k)
    (hr : row[i]? = some o) : (cellsOf s row)[i]? = some (cellOf k o) := by
  simp [cellsOf, List.getElem?_zipWith, hk, hr]

theorem varTotal_eq (h : RowOk s row) :
    (varCells s (cellsOf s row)).flatten.length = varTotal s row := by
  fun_induction RowOk s row with
  | case1 => rfl
  | case2 n ks b r ih => simpa only [cellsOf_cons, varCells_fixed, varTotal] using ih h.2
  | case3 ks b r ih =>
    simpa only [cellsOf_cons, cellOf, varCells_var, varTotal, List.flatten_cons, List.length_append,
      Nat.add_left_cancel_iff] using ih h
  | case4 k ks r ih =>
    cases k <;> simpa only [cellsOf_cons, cellOf, newCell, varCells_fixed, varCells_var, varTotal,
      List.flatten_cons, List.nil_append] using ih h
  | case5 => exact h.elim

end rowOk

theorem offsetTable_length (vs : List (List Nat)) (acc : Nat) (t : List Nat)
    (h : offsetTable vs acc = some t) : t.length = 2 * vs.length := by
  fun_induction offsetTable vs acc generalizing t with
  | case1 => cases h; rfl
  | case2 => cases h
  | case3 v vs acc a _ t' ht' ih =>
    cases h
    simp [le16, ih t' ht']
    omega
  | case4 => cases h

section shape
variable {s : List ColKind} {st : List Cell}

theorem varCells_length (h : Shape s st) : (varCells s st).length = varCount s := by
  fun_induction Shape s st with
  | case1 => rfl
  | case2 n ks c cs ih => simpa only [varCells_fixed, varCount_fixed] using ih h.2
  | case3 ks c cs ih =>
    simpa only [varCells_var, varCount_var, List.length_cons, Nat.add_right_cancel_iff] using ih h
  | case4 => exact h.elim

theorem fixedArea_length (h : Shape s st) : (fixedArea s st).length = totalFixed s := by
  fun_induction Shape s st with
  | case1 => rfl
  | case2 n ks c cs ih =>
    simp only [fixedArea_fixed, List.length_append, h.1, ih h.2, totalFixed, fixedSize]
  | case3 ks c cs ih => simp only [fixedArea_var, ih h, totalFixed, fixedSize, Nat.zero_add]
  | case4 => exact h.elim

/-- the fixed area splits around column `i` at exactly `fixedOffset s i` -/
theorem fixedArea_split (h : Shape s st) : ∀ (i n : Nat) (c : Cell), s[i]? = some (.fixed n) →
    st[i]? = some c →
    ∃ A B, fixedArea s st = A ++ (c.bytes ++ B) ∧ A.length = fixedOffset s i ∧ c.bytes.length = n := by
  fun_induction Shape s st with
  | case1 => intro i n c hk; simp at hk
  | case2 m ks c₀ cs ih =>
    intro i n c hk hi
    cases i with
    | zero =>
      simp only [List.getElem?_cons_zero, Option.some.injEq, ColKind.fixed.injEq] at hk hi
      subst hk hi
      exact ⟨[], fixedArea ks cs, rfl, rfl, h.1⟩
    | succ j =>
      obtain ⟨A, B, hf, hl, hn⟩ := ih h.2 j n c (by simpa using hk) (by simpa using hi)
      exact ⟨c₀.bytes ++ A, B, by simp only [fixedArea_fixed, hf, List.append_assoc],
        by simp only [List.length_append, h.1, hl, fixedOffset, fixedSize], hn⟩
  | case3 ks c₀ cs ih =>
    intro i n c hk hi
    cases i with
    | zero => simp at hk
    | succ j =>
      obtain ⟨A, B, hf, hl, hn⟩ := ih h j n c (by simpa using hk) (by simpa using hi)
      exact ⟨A, B, by simp only [fixedArea_var, hf],
        by simp only [hl, fixedOffset, fixedSize, Nat.zero_add], hn⟩
  | case4 => exact h.elim

/-- column `i` (variable) is entry `varIndex s i` of the variable cells -/
theorem varCells_get (h : Shape s st) : ∀ (i : Nat) (c : Cell), s[i]? = some .var → st[i]? = some c →
    (varCells s st)[varIndex s i]? = some c.bytes := by
  fun_induction Shape s st with
  | case1 => intro i c hk; simp at hk
  | case2 n ks c₀ cs ih =>
    intro i c hk hi
    cases i with
    | zero => simp at hk
    | succ j =>
      simpa only [varCells_fixed, varIndex_succ_fixed]
        using ih h.2 j c (by simpa using hk) (by simpa using hi)
  | case3 ks c₀ cs ih =>
    intro i c hk hi
    cases i with
    | zero =>
      simp only [List.getElem?_cons_zero, Option.some.injEq] at hi
      subst hi
      rfl
    | succ j =>
      simpa only [varCells_var, varIndex_succ_var, List.getElem?_cons_succ]
        using ih h j c (by simpa using hk) (by simpa using hi)
  | case4 => exact h.elim

end shape

/-- Where the parts of a built record lie: the header length field, the bitmap at 2, the offset
table behind it, and the two data areas from `headerLen s` on. -/
theorem build_layout {s : List ColKind} {st : List Cell} {data : List Nat} (h : Shape s st)
    (hb : build s st = .ok data) :
    ∃ table, offsetTable (varCells s st) 0 = some table ∧
      (headerLen s < 65536 → rd16 data 0 = some (headerLen s)) ∧
      (∃ r, At data 2 (bitmap (st.map (·.null)) ++ r)) ∧
      (∃ r, At data (2 + bitmapSize s.length) (table ++ r)) ∧
      At data (headerLen s) (fixedArea s st ++ (varCells s st).flatten) := by
  rw [build] at hb
  split at hb
  · cases hb
  · rename_i table htab
    injection hb with hb
    have h0 : At data 0 (le16 (headerLen s % 65536) ++ (bitmap (st.map (·.null)) ++ (table ++
        (fixedArea s st ++ (varCells s st).flatten)))) := ⟨[], by rw [← hb]; simp, rfl⟩
    have h1 : At data 2 _ := h0.adv rfl
    have h2 : At data (2 + bitmapSize s.length) _ := h1.adv (by simp [bitmap, shape_length h])
    have h3 : At data (headerLen s) _ :=
      h2.adv (by rw [offsetTable_length _ _ _ htab, varCells_length h])
    exact ⟨table, htab, fun hf => by rw [Nat.mod_eq_of_lt hf] at h0; exact h0.rd16 hf,
      ⟨_, h1⟩, ⟨_, h2⟩, h3⟩

/-- total length of the first `j` variable values -/
def sumTo (vs : List (List Nat)) (j : Nat) : Nat := ((vs.take j).map List.length).sum

theorem sumTo_zero (vs : List (List Nat)) : sumTo vs 0 = 0 := by simp [sumTo]
theorem sumTo_cons_succ (v : List Nat) (vs : List (List Nat)) (j : Nat) :
    sumTo (v :: vs) (j + 1) = v.length + sumTo vs j := by simp [sumTo]
theorem sumTo_succ (vs : List (List Nat)) (j : Nat) (hj : j < vs.length) :
    sumTo vs (j + 1) = sumTo vs j + vs[j].length := by
  induction vs generalizing j with
  | nil => simp at hj
  | cons v vs ih =>
    cases j with
    | zero => simp [sumTo]
    | succ k =>
      have hk : k < vs.length := by simpa using hj
      rw [sumTo_cons_succ, sumTo_cons_succ, ih k hk]; simp; omega
/-- `t` is the offset table of the values `vs` started at `acc`: entry `j`, read at any cursor on `t`,
is the end offset of value `j` -/
def IsTable (acc : Nat) (vs : List (List Nat)) (t : List Nat) : Prop :=
  ∀ {data rest : List Nat} {off : Nat}, At data off (t ++ rest) →
    ∀ j, j < vs.length → rd16 data (off + 2 * j) = some (acc + sumTo vs (j + 1))

/-- while the running total stays below 2^16 the offset-table loop succeeds, with that table -/
theorem offsetTable_entries : ∀ (vs : List (List Nat)) (acc : Nat), acc + sumTo vs vs.length < 65536 →
    ∃ t, offsetTable vs acc = some t ∧ IsTable acc vs t := by
  intro vs
  induction vs with
  | nil => intro acc _; exact ⟨[], by simp [offsetTable], by intro _ _ _ _ j hj; simp at hj⟩
  | cons v vs ih =>
    intro acc h
    rw [List.length_cons, sumTo_cons_succ] at h
    obtain ⟨t, ht, hent⟩ := ih (acc + v.length) (by omega)
    refine ⟨le16 (acc + v.length) ++ t, ?_, ?_⟩
    · rw [offsetTable, Nat.mod_eq_of_lt (by omega : v.length < 65536), if_neg (by omega), ht]
    · intro data rest off hat j hj
      rw [List.append_assoc] at hat
      cases j with
      | zero => rw [Nat.mul_zero, Nat.add_zero, hat.rd16 (by omega), sumTo_cons_succ, sumTo_zero, Nat.add_zero]
      | succ k =>
        rw [sumTo_cons_succ, ← Nat.add_assoc, ← hent (hat.adv (n := 2) rfl) k (by simpa using hj),
          Nat.mul_succ, Nat.add_comm (2 * k), Nat.add_assoc]

theorem flatten_slice : ∀ (vs : List (List Nat)) (j : Nat) (hj : j < vs.length) {data rest : List Nat}
    {off : Nat}, At data off (vs.flatten ++ rest) →
    slice data (off + sumTo vs j) (vs[j].length) = some vs[j] := by
  intro vs
  induction vs with
  | nil => intro j hj; simp at hj
  | cons v vs ih =>
    intro j hj data rest off hat
    rw [List.flatten_cons, List.append_assoc] at hat
    cases j with
    | zero => rw [sumTo_zero, Nat.add_zero]; exact hat.slice rfl
    | succ k =>
      rw [sumTo_cons_succ, ← Nat.add_assoc]
      exact ih k (by simpa using hj) (hat.adv rfl)

theorem flatten_length (vs : List (List Nat)) : vs.flatten.length = sumTo vs vs.length := by
  induction vs with
  | nil => simp [sumTo]
  | cons v vs ih => rw [List.length_cons, sumTo_cons_succ]; simp [ih]

/-- `get_var_bounds` on a record whose offset table `t` holds the running end offsets of the values
`vs`: column `i` is bounded by the offsets before and after value `varIndex s i`. -/
theorem varBounds_eq {s : List ColKind} {data t rest : List Nat} {vs : List (List Nat)} {i hl : Nat}
    (hrd : rd16 data 0 = some hl) (hat : At data (2 + bitmapSize s.length) (t ++ rest))
    (hent : IsTable 0 vs t)
    (hvi : varIndex s i < vs.length) :
    varBounds s data i = some (hl + totalFixed s + sumTo vs (varIndex s i),
      hl + totalFixed s + sumTo vs (varIndex s i + 1)) := by
  have entry : ∀ j, j < vs.length →
      rd16 data (2 + bitmapSize s.length + j * 2) = some (sumTo vs (j + 1)) := by
    intro j hj
    rw [Nat.mul_comm, hent hat j hj, Nat.zero_add]
  unfold varBounds
  simp only [hrd, entry _ hvi]
  by_cases h0 : varIndex s i = 0
  · simp [h0, sumTo_zero]
  · have := entry (varIndex s i - 1) (by omega)
    rw [show varIndex s i - 1 + 1 = varIndex s i by omega] at this
    simp [h0, this]

section getters
variable {s : List ColKind} {st : List Cell} {data : List Nat} {i : Nat} {c : Cell}

theorem isNull_build (h : Shape s st) (hb : build s st = .ok data) (hi : st[i]? = some c) :
    isNull data i = some c.null := by
  obtain ⟨_, _, _, ⟨r, h1⟩, _, _⟩ := build_layout h hb
  have hfl : (st.map (·.null)).getD i false = c.null := by simp [List.getD, hi]
  have hlen : (st.map (·.null)).length = s.length := by rw [List.length_map, shape_length h]
  generalize st.map (·.null) = fl at h1 hfl hlen
  have hj : i / 8 < (bitmap fl).length := by
    have := (List.getElem?_eq_some_iff.mp hi).1
    rw [shape_length h] at this
    simp only [bitmap, List.length_map, List.length_range, bitmapSize, hlen]
    omega
  rw [isNull, h1.byte hj]
  simp only [bitmap, List.getElem_map, List.getElem_range, packByte_bit, hfl]
  cases c.null <;> rfl

theorem get_fixed_build {n : Nat} (h : Shape s st) (hfit : headerLen s < 65536)
    (hb : build s st = .ok data) (hk : s[i]? = some (.fixed n)) (hi : st[i]? = some c)
    (hc : c.null = false) : Record.get s data i = .val c.bytes := by
  obtain ⟨_, _, hrd, _, _, h3⟩ := build_layout h hb
  obtain ⟨A, B, hf, hl, hn⟩ := fixedArea_split h i n c hk hi
  rw [hf, List.append_assoc, List.append_assoc] at h3
  simp [TurVerif.Record.get, isNull_build h hb hi, hc, hk, hrd hfit, ((h3.adv hl).slice hn)]

theorem get_var_build (h : Shape s st) (hfit : headerLen s < 65536)
    (htot : (varCells s st).flatten.length < 65536) (hb : build s st = .ok data)
    (hk : s[i]? = some .var) (hi : st[i]? = some c) (hc : c.null = false) :
    Record.get s data i = .val c.bytes := by
  obtain ⟨t, ht, hrd, _, ⟨r, h2⟩, h3⟩ := build_layout h hb
  obtain ⟨hvi, hvb⟩ := List.getElem?_eq_some_iff.mp (varCells_get h i c hk hi)
  have h4 := h3.adv (fixedArea_length h)
  generalize varCells s st = vs at ht h4 hvi hvb htot
  -- the table `build_layout` exposes is the one `offsetTable_entries` describes: both are `offsetTable vs 0`
  obtain ⟨t', ht', hent⟩ := offsetTable_entries vs 0 (by rw [← flatten_length]; omega)
  obtain rfl : t' = t := Option.some.inj (ht'.symm.trans ht)
  have hsl := flatten_slice vs _ hvi (rest := []) (by rwa [List.append_nil])
  have hsucc := sumTo_succ vs _ hvi
  rw [hvb] at hsl hsucc
  rw [TurVerif.Record.get]
  simp only [isNull_build h hb hi, hc, hk, varBounds_eq (hrd hfit) h2 hent hvi, hsucc]
  rw [if_neg (by omega), show ∀ a b : Nat, a + (b + c.bytes.length) - (a + b) = c.bytes.length by omega,
    hsl]

/-- VIEW ∘ BUILD for any well-shaped builder state whose u16 fields do not wrap: every column reads
back its cell — NULL if the bit is set, the cell's bytes otherwise. -/
theorem get_build (h : Shape s st) (hfit : headerLen s < 65536)
    (htot : (varCells s st).flatten.length < 65536) (hb : build s st = .ok data)
    (hi : st[i]? = some c) :
    Record.get s data i = if c.null then .null else .val c.bytes := by
  cases hc : c.null with
  | true => simp [TurVerif.Record.get, isNull_build h hb hi, hc]
  | false =>
    have hlt := (List.getElem?_eq_some_iff.mp hi).1
    rw [shape_length h] at hlt
    have hk : s[i]? = some s[i] := List.getElem?_eq_getElem hlt
    cases hki : s[i] with
    | fixed n => rw [hki] at hk; simpa using get_fixed_build h hfit hb hk hi hc
    | var => rw [hki] at hk; simpa using get_var_build h hfit htot hb hk hi hc

end getters

theorem countCols_all (ks : List ColKind) (consumed avail : Nat)
    (h : consumed + totalFixed ks ≤ avail) : countCols ks consumed avail = ks.length := by
  fun_induction countCols ks consumed avail with
  | case1 => rfl
  | case2 n ks c a hgt =>
    simp only [totalFixed, fixedSize] at h
    omega
  | case3 n ks c a hgt ih =>
    simp only [totalFixed, fixedSize] at h
    rw [ih (by omega), List.length_cons]
    omega
  | case4 ks c a ih =>
    simp only [totalFixed, fixedSize] at h
    rw [ih (by omega), List.length_cons]
    omega

end TurVerif.C31
