import TurVerif.Lemmas.LexerBasic
open TurVerif.Lexer
/- Every scanner of the lexer model, started inside the input, returns a token (no fault) that starts at the
given position, is not empty and stays inside the input (`Post`; `PostS` for the two that may skip a comment instead). -/
namespace TurVerif.LexerLemmas

variable {bs : Bytes}

theorem hexStrLoop_spec {pos : Nat} (h : pos ≤ bs.size) :
    ∃ q bad, hexStrLoop bs pos = .ok (q, bad) ∧ pos ≤ q ∧ q ≤ bs.size ∧
      (bad = false → q < bs.size → B bs q = 39) := by
  fun_induction hexStrLoop bs pos with
  | case1 x hx e he => rw [rd_lt hx] at he; cases he
  | case2 x hx c hc h39 =>
    cases (rd_lt hx).symm.trans hc
    exact ⟨x, false, rfl, Nat.le_refl _, h, fun _ _ => eq_of_beq h39⟩
  | case3 x hx c _ _ _ => exact ⟨x, true, rfl, Nat.le_refl _, h, fun hb => by cases hb⟩
  | case4 x hx c _ _ _ ih =>
    obtain ⟨q, bad, he, h1, h2, h3⟩ := ih hx
    exact ⟨q, bad, he, Nat.le_of_succ_le h1, h2, h3⟩
  | case5 x hx => exact ⟨x, false, rfl, Nat.le_refl _, h, fun _ h1 => absurd h1 hx⟩

theorem scanHexString_post (hwf : WF bs) {start : Nat} (h : start + 1 < bs.size)
    (hq : B bs (start + 1) = 39) : Post bs start (scanHexString bs start) := by
  unfold scanHexString
  simp only [adv_lt (Nat.lt_of_succ_lt h), adv_lt h]
  obtain ⟨q, bad, he, h1, h2, h3⟩ := hexStrLoop_spec h
  rw [he]
  have hs : Stop bs start q := ⟨Nat.lt_of_succ_lt h1, h2⟩
  refine ite_cases (fun _ => Post_mk hs) fun hb => ite_cases (fun _ => Post_mk hs) fun hge => ?_
  have hql : q < bs.size := Nat.lt_of_not_le hge
  have h39 := h3 (by simpa using hb) hql
  rw [adv_lt hql]
  exact Post_mkS hwf ⟨Nat.lt_succ_of_lt hs.1, hql⟩ h1 h2 (good_after h (hq ▸ by decide))
    (good_at hql (h39 ▸ by decide))

theorem scanIdent_post (hwf : WF bs) {start : Nat} (h : start < bs.size)
    (hs : isIdentStart (B bs start) = true) : Post bs start (scanIdent bs start) := by
  have g := good_at h (isIdentStart_ascii _ hs)
  refine rd_elim h (ite_cases (fun hc => ?_) fun _ => scanWhile_elim (Nat.le_of_lt h) fun e r => ?_)
  · simp only [Bool.and_eq_true, beq_iff_eq] at hc
    obtain ⟨h1, hq⟩ := peek_some hc.2
    exact scanHexString_post hwf h1 hq
  · have hfirst : isIdentChar (B bs start) = true := by
      simp only [isIdentStart, Bool.or_eq_true] at hs
      simp only [isIdentChar, Bool.or_eq_true]
      exact hs.elim (fun hs => .inl (.inl hs)) .inr
    exact Post_mkS hwf ⟨r.lt h hfirst, r.le_size⟩ r.le r.le_size g (r.good isIdentChar_ascii g)

theorem scanRadix_post (hwf : WF bs) {p : Nat → Bool} (hp : Ascii p)
    {k : Kind} {msg : String} {start : Nat} (h : start + 1 < bs.size) (hx : B bs (start + 1) < 128) :
    Post bs start (scanRadix bs p k msg start) := by
  unfold scanRadix
  simp only [adv_lt (Nat.lt_of_succ_lt h), adv_lt h]
  refine scanWhile_elim h fun e r => ?_
  have hs : Stop bs start e := r.toStop (Nat.lt_succ_of_lt (Nat.lt_succ_self _))
  have g := good_after h hx
  exact ite_elim (Post_mk hs) (Post_mkS hwf hs r.le r.le_size g (r.good hp g))

/-- outcome of the optional parts of a number: a position reached over ASCII bytes only -/
def Span (bs : Bytes) (pos : Nat) (r : Except Fault (Nat × Bool)) : Prop :=
  ∃ q f, r = .ok (q, f) ∧ pos ≤ q ∧ q ≤ bs.size ∧ AllAscii bs pos q

theorem Span.here {pos : Nat} (h : pos ≤ bs.size) (f : Bool) : Span bs pos (.ok (pos, f)) :=
  ⟨pos, f, rfl, Nat.le_refl _, h, AllAscii.empty⟩

/-- `[pos, s)` is the ASCII lead-in (`.`, `e`, `e+`), then a run of digits -/
theorem Span.digits {pos s e : Nat} (f : Bool) (ha : AllAscii bs pos s) (hs : pos ≤ s)
    (r : Run bs isDigit s e) : Span bs pos (.ok (e, f)) :=
  ⟨e, f, rfl, Nat.le_trans hs r.le, r.le_size, ha.append (r.allAscii isDigit_ascii)⟩

theorem lt_of_beq_or {x a b n : Nat} (h : (x == a || x == b) = true) (ha : a < n) (hb : b < n) : x < n :=
  ((Bool.or_eq_true _ _).mp h).elim (fun h => eq_of_beq h ▸ ha) (fun h => eq_of_beq h ▸ hb)

theorem scanExp_spec {pos : Nat} (h : pos ≤ bs.size) : Span bs pos (scanExp bs pos) := by
  unfold scanExp
  -- the model writes this `match` (and the one of `scanFrac`) with `.ok false` first: another matcher than the one
  -- `curSat_elim` is stated on, so the case split is made by hand
  rcases curSat_cases bs pos (fun c => c == 101 || c == 69) with ⟨hc, hlt, hp⟩ | ⟨hc, _⟩ <;> simp only [hc]
  · have he : AllAscii bs pos (pos + 1) := AllAscii.single (lt_of_beq_or hp (by decide) (by decide))
    rw [adv_lt hlt]
    rcases curSat_cases bs (pos + 1) (fun c => c == 43 || c == 45) with ⟨hc2, hlt2, hp2⟩ | ⟨hc2, _⟩ <;>
      simp only [hc2, if_true, Bool.false_eq_true, if_false]
    · have hs : AllAscii bs (pos + 1) (pos + 1 + 1) :=
        AllAscii.single (lt_of_beq_or hp2 (by decide) (by decide))
      rw [adv_lt hlt2]
      exact scanWhile_elim hlt2 fun e r =>
        Span.digits true (he.append hs) (Nat.le_succ_of_le (Nat.le_succ _)) r
    · exact scanWhile_elim hlt fun e r => Span.digits true he (Nat.le_succ _) r
  · exact Span.here h false

theorem scanFrac_spec {pos : Nat} (h : pos ≤ bs.size) : Span bs pos (scanFrac bs pos) := by
  unfold scanFrac
  rcases curSat_cases bs pos (fun c => c == 46) with ⟨hc, hlt, hp⟩ | ⟨hc, _⟩ <;> simp only [hc]
  · have hd : AllAscii bs pos (pos + 1) := AllAscii.single (eq_of_beq hp ▸ by decide)
    by_cases h1 : pos + 1 < bs.size
    · simp only [peek_lt h1, adv_lt hlt]
      exact ite_elim (scanWhile_elim hlt fun e r => Span.digits true hd (Nat.le_succ _) r)
        (ite_elim (Span.here h false) ⟨pos + 1, true, rfl, Nat.le_succ _, hlt, hd⟩)
    · simp only [peek_ge (Nat.le_of_not_lt h1)]
      exact Span.here h false
  · exact Span.here h false

theorem scanDecimal_post (hwf : WF bs) {start : Nat} (h : start < bs.size)
    (hd : isDigit (B bs start) = true) : Post bs start (scanDecimal bs start) := by
  refine scanWhile_elim (Nat.le_of_lt h) fun p1 r => ?_
  obtain ⟨p2, f1, hf, h5, h6, h7⟩ := scanFrac_spec r.le_size
  obtain ⟨p3, f2, hx, h8, h9, h10⟩ := scanExp_spec h6
  simp only [hf, hx]
  have hlt : start < p3 := Nat.lt_of_lt_of_le (r.lt h hd) (Nat.le_trans h5 h8)
  have hall : AllAscii bs start p3 := ((r.allAscii isDigit_ascii).append h7).append h10
  exact Post_mkS hwf ⟨hlt, h9⟩ (Nat.le_of_lt hlt) h9 (good_at h (isDigit_ascii _ hd)) (hall.good hlt h9)

theorem scanNumber_post (hwf : WF bs) {start : Nat} (h : start < bs.size)
    (hd : isDigit (B bs start) = true) : Post bs start (scanNumber bs start) := by
  have dec := scanDecimal_post hwf h hd
  refine rd_elim h (ite_elim ?_ dec)
  -- a radix prefix is the ASCII letter seen by `peek`
  have radix : ∀ {p k msg} (n a b : Nat), Ascii p → peek bs start = some n → (n == a || n == b) = true →
      a < 128 → b < 128 → Post bs start (scanRadix bs p k msg start) := by
    intro p k msg n a b hp hn hc ha hb
    obtain ⟨h1, rfl⟩ := peek_some hn
    exact scanRadix_post hwf hp h1 (lt_of_beq_or hc ha hb)
  cases hn : peek bs start with
  | none => exact dec
  | some n =>
    exact ite_cases (fun hc => radix n _ _ isHex_ascii hn hc (by decide) (by decide)) fun _ =>
      ite_cases (fun hc => radix n _ _ isBin_ascii hn hc (by decide) (by decide)) fun _ =>
      ite_cases (fun hc => radix n _ _ isOct_ascii hn hc (by decide) (by decide)) fun _ => dec

/-- outcome of the search for a closing delimiter `q` from `pos`: not found, or found at a position inside the
input -/
def Found (bs : Bytes) (q pos : Nat) (r : Except Fault (Option Nat)) : Prop :=
  ∃ o, r = .ok o ∧ ∀ e, o = some e → pos ≤ e ∧ e < bs.size ∧ B bs e = q

theorem Found.none {q pos : Nat} : Found bs q pos (.ok none) :=
  ⟨_, rfl, fun _ he => by cases he⟩

theorem Found.here {q pos : Nat} (h : pos < bs.size) (hq : B bs pos = q) : Found bs q pos (.ok (some pos)) :=
  ⟨_, rfl, fun _ he => by cases he; exact ⟨Nat.le_refl _, h, hq⟩⟩

theorem Found.weaken {q pos pos' : Nat} {r : Except Fault (Option Nat)} (h : pos ≤ pos') :
    Found bs q pos' r → Found bs q pos r
  | ⟨o, ho, hs⟩ => ⟨o, ho, fun e he => have := hs e he; ⟨Nat.le_trans h this.1, this.2⟩⟩

theorem found_elim {α : Type} {Q : Except Fault α → Prop} {x : Except Fault (Option Nat)} {q s : Nat}
    (hf : Found bs q s x) {a : Except Fault α} {f : Nat → Except Fault α} (hn : Q a)
    (hs : ∀ e, s ≤ e → e < bs.size → B bs e = q → Q (f e)) :
    Q (match (generalizing := false) x with | .error e => .error e | .ok none => a | .ok (some e) => f e) := by
  obtain ⟨o, rfl, ho⟩ := hf
  cases o with
  | none => exact hn
  | some e => obtain ⟨h1, h2, h3⟩ := ho e rfl; exact hs e h1 h2 h3

theorem quoteLoop_spec (bs : Bytes) (q pos : Nat) : Found bs q pos (quoteLoop bs q pos) := by
  fun_induction quoteLoop bs q pos with
  | case1 x hx e he => rw [rd_lt hx] at he; cases he
  | case2 x hx c _ _ _ ih => exact ih.weaken (Nat.le_add_right _ _)
  | case3 x hx c hc hq _ =>
    cases (rd_lt hx).symm.trans hc
    exact .here hx (eq_of_beq hq)
  | case4 x hx c _ _ ih => exact ih.weaken (Nat.le_succ _)
  | case5 x hx => exact .none

theorem scanQuoted_post (hwf : WF bs) {q : Nat} {k : Kind} {msg : String} {start : Nat}
    (h : start < bs.size) (hs : B bs start = q) (hq : q < 128) : Post bs start (scanQuoted bs q k msg start) :=
  found_elim (quoteLoop_spec bs q _) (Post_mk ⟨h, Nat.le_refl _⟩) fun _ h1 h2 h3 =>
    Post_mkS hwf (Stop.adv ⟨Nat.lt_of_lt_of_le (Stop.first h).1 h1, Nat.le_of_lt h2⟩) h1 (Nat.le_of_lt h2)
      (good_adv h (hs ▸ hq)) (good_at h2 (h3 ▸ hq))

theorem Stop.advN {pos : Nat} : ∀ n {q}, Stop bs pos q → Stop bs pos (advN bs n q)
  | 0, _, h => h
  | n + 1, _, h => Stop.advN n h.adv

theorem dollarLoop_spec (hwf : WF bs) (tag : List Nat) (pos : Nat) : Found bs 36 pos (dollarLoop bs tag pos) := by
  fun_induction dollarLoop bs tag pos with
  | case1 x hx e he => rw [rd_lt hx] at he; cases he
  | case2 x hx c hc hd _ _ =>
    cases (rd_lt hx).symm.trans hc
    exact .here hx (eq_of_beq hd)
  | case3 x hx c _ _ _ _ ih => exact ih.weaken (Nat.le_succ _)
  | case4 x hx c hc hd hso =>
    -- `&self.input[self.pos..]` at a `$` is always sliceable
    cases (rd_lt hx).symm.trans hc
    exact absurd (sliceOk_of_good hwf (Nat.le_of_lt hx) (Nat.le_refl _) (good_at hx (eq_of_beq hd ▸ by decide))
      (.inr (.inl rfl))) hso
  | case5 x hx c _ _ ih => exact ih.weaken (Nat.le_succ _)
  | case6 x hx => exact .none

theorem scanDollarString_post (hwf : WF bs) (inner : List Nat) {start pos : Nat}
    (hsp : start ≤ pos) (h : pos < bs.size) (hd : B bs pos = 36) :
    Post bs start (scanDollarString bs inner start pos) :=
  found_elim (dollarLoop_spec hwf _ _) (Post_mk ⟨Nat.lt_of_le_of_lt hsp h, Nat.le_refl _⟩) fun _ h1 h2 h3 =>
    Post_mkS hwf
      (Stop.advN _ ⟨Nat.lt_of_le_of_lt hsp (Nat.lt_of_lt_of_le (Stop.first h).1 h1), Nat.le_of_lt h2⟩)
      h1 (Nat.le_of_lt h2) (good_adv h (hd ▸ by decide)) (good_at h2 (h3 ▸ by decide))

theorem scanDollar_post (hwf : WF bs) {start : Nat} (h : start < bs.size) (hd : B bs start = 36) :
    Post bs start (scanDollar bs start) := by
  have s := Stop.first h
  have g1 : Good bs (adv bs start) := good_adv h (hd ▸ by decide)
  refine next_elim (Post_mk s) fun h1 => ?_
  -- the tag / number slice taken after a run over an ASCII class
  have hso : ∀ {p e}, Ascii p → Run bs p (adv bs start) e → sliceOk bs (adv bs start) e = true :=
    fun hp r => sliceOk_of_good hwf r.le r.le_size g1 (r.good hp g1)
  refine ite_elim (scanWhile_elim s.2 fun e r => ?_) <|
    ite_cases (fun hc => scanDollarString_post hwf [] (Nat.le_of_lt s.1) h1 (eq_of_beq hc)) fun _ =>
    ite_elim (scanWhile_elim s.2 fun e r => ?_) (Post_mk s)
  · rw [if_pos (hso isDigit_ascii r)]
    exact ite_elim (Post_mk (r.toStop s.1)) (Post_mk (r.toStop s.1))
  · refine curSat_elim (fun hlt hp => ?_) (Post_mk (r.toStop s.1))
    rw [if_pos (hso isIdentChar_ascii r)]
    exact scanDollarString_post hwf _ (Nat.le_trans (Nat.le_of_lt s.1) r.le) hlt (eq_of_beq hp)

/-- `:name` / `@name` -/
theorem named_post (hwf : WF bs) {start : Nat} (h : start < bs.size) (ha : B bs start < 128)
    (h1 : adv bs start < bs.size) :
    Post bs start (match scanWhile bs isIdentChar (adv bs start) with
      | .error e => .error e
      | .ok e => mkS bs .paramNamed start e (adv bs start) e) :=
  scanWhile_elim (Nat.le_of_lt h1) fun _ r =>
    have g := good_adv h ha
    Post_mkS hwf (r.toStop (Stop.first h).1) r.le r.le_size g (r.good isIdentChar_ascii g)

theorem scanColon_post (hwf : WF bs) {start : Nat} (h : start < bs.size) (hc : B bs start = 58) :
    Post bs start (scanColon bs start) :=
  have s := Stop.first h
  next_elim (Post_mk s) fun h1 => ite_elim (Post_mk s.adv) <| ite_elim (Post_mk s.adv) <|
    ite_elim (named_post hwf h (hc ▸ by decide) h1) (Post_mk s)

theorem scanAt_post (hwf : WF bs) {start : Nat} (h : start < bs.size) (hc : B bs start = 64) :
    Post bs start (scanAt bs start) :=
  have s := Stop.first h
  next_elim (Post_mk s) fun h1 => ite_elim (Post_mk s.adv) <|
    ite_elim (named_post hwf h (hc ▸ by decide) h1) (Post_mk s)

theorem scanQuestion_post {start : Nat} (h : start < bs.size) :
    Post bs start (scanQuestion bs start) :=
  have s := Stop.first h
  next_elim (Post_mk s) fun _ => ite_elim (Post_mk s.adv) <| ite_elim (Post_mk s.adv) (Post_mk s)

theorem scanPair_post {c2 : Nat} {one two : Kind} {start : Nat} (h : start < bs.size) :
    Post bs start (scanPair bs c2 one two start) :=
  have s := Stop.first h
  curSat_elim (fun _ _ => Post_mk s.adv) (Post_mk s)

theorem scanHash_post {start : Nat} (h : start < bs.size) :
    Post bs start (scanHash bs start) :=
  have s := Stop.first h
  next_elim (Post_mk s) fun _ =>
    ite_elim (curSat_elim (fun _ _ => Post_mk s.adv.adv) (Post_mk s.adv)) (Post_mk s)

/-- `self.pos -= 1` after an `advance()` that moved -/
theorem backOne_adv (start : Nat) {p : Nat} (h : p < bs.size) :
    backOne start (adv bs p) = mk (.sym "Lt") start p := by
  rw [adv_lt h]; rfl

theorem scanLess_post {start : Nat} (h : start < bs.size) :
    Post bs start (scanLess bs start) := by
  have s := Stop.first h
  refine next_elim (Post_mk s) fun h1 => ?_
  have back : Post bs start (backOne start (adv bs (adv bs start))) := by
    rw [backOne_adv start h1]; exact Post_mk s
  exact ite_elim (curSat_elim (fun _ _ => Post_mk s.adv.adv) (Post_mk s.adv)) <|
    ite_elim (Post_mk s.adv) <| ite_elim (Post_mk s.adv) <| ite_elim (Post_mk s.adv) <|
    ite_elim (curSat_elim (fun _ _ => Post_mk s.adv.adv) back) <|
    ite_elim (curSat_elim (fun _ _ => Post_mk s.adv.adv) back) (Post_mk s)

theorem scanGreater_post {start : Nat} (h : start < bs.size) :
    Post bs start (scanGreater bs start) :=
  have s := Stop.first h
  next_elim (Post_mk s) fun _ => ite_elim (Post_mk s.adv) <| ite_elim (Post_mk s.adv) (Post_mk s)

theorem scanDot_post (hwf : WF bs) {start : Nat} (h : start < bs.size) (hd : B bs start = 46) :
    Post bs start (scanDot bs start) := by
  have s := Stop.first h
  refine curSat_elim (fun _ _ => Post_mk s.adv) (curSat_elim (fun h1 _ => ?_) (Post_mk s))
  rw [adv_lt h] at h1 ⊢
  rw [if_neg (Nat.succ_ne_zero _), Nat.add_sub_cancel]
  refine scanWhile_elim (Nat.le_of_lt h1) fun q r => ?_
  obtain ⟨e, f, hx, h5, h6, h7⟩ := scanExp_spec r.le_size
  rw [hx]
  have hlt : start < e := Nat.lt_of_lt_of_le r.le h5
  have ha : B bs start < 128 := hd ▸ by decide
  have hall : AllAscii bs start e := ((AllAscii.single ha).append (r.allAscii isDigit_ascii)).append h7
  exact Post_mkS hwf ⟨hlt, h6⟩ (Nat.le_of_lt hlt) h6 (good_at h ha) (hall.good hlt h6)

theorem scanMinus_post {start : Nat} (h : start < bs.size) :
    PostS bs start (scanMinus bs start) := by
  have s := Stop.first h
  refine next_elim (Post_mk s) fun h1 => ?_
  refine ite_elim (scanWhile_elim s.2 fun e r => .inr ⟨e, rfl, r.toStop s.1⟩) <|
    ite_elim (curSat_elim (fun _ _ => Post_mk s.adv.adv) (Post_mk s.adv)) (Post_mk s)

/-- outcome of the comment loop: a position reached from `pos` inside the input -/
def Reach (bs : Bytes) (pos : Nat) (r : Except Fault (Nat × Nat)) : Prop :=
  ∃ q d, r = .ok (q, d) ∧ pos ≤ q ∧ q ≤ bs.size

theorem Reach.weaken {pos pos' : Nat} {r : Except Fault (Nat × Nat)} (h : pos ≤ pos') :
    Reach bs pos' r → Reach bs pos r
  | ⟨q, d, hq, h2, h3⟩ => ⟨q, d, hq, Nat.le_trans h h2, h3⟩

theorem blockLoop_spec {pos : Nat} (depth : Nat) (h : pos ≤ bs.size) : Reach bs pos (blockLoop bs pos depth) := by
  fun_induction blockLoop bs pos depth with
  | case1 x d hx e he => rw [rd_lt hx.1] at he; cases he
  | case2 x d hx c _ hc ih =>
    simp only [Bool.and_eq_true, beq_iff_eq] at hc
    exact (ih (peek_some hc.2).1).weaken (Nat.le_add_right _ _)
  | case3 x d hx c _ _ hc ih =>
    simp only [Bool.and_eq_true, beq_iff_eq] at hc
    exact (ih (peek_some hc.2).1).weaken (Nat.le_add_right _ _)
  | case4 x d hx c _ _ _ ih => exact (ih hx.1).weaken (Nat.le_succ _)
  | case5 x d hx => exact ⟨x, d, rfl, Nat.le_refl _, h⟩

theorem scanSlash_post {start : Nat} (h : start < bs.size) :
    PostS bs start (scanSlash bs start) := by
  have s := Stop.first h
  refine next_elim (Post_mk s) fun h1 => ite_elim ?_ (Post_mk s)
  obtain ⟨q, d, hq, h2, h3⟩ := blockLoop_spec 1 s.adv.2
  rw [hq]
  have sq : Stop bs start q := ⟨Nat.lt_of_lt_of_le s.adv.1 h2, h3⟩
  exact ite_elim (Post_mk sq) (.inr ⟨q, rfl, sq⟩)

end TurVerif.LexerLemmas
