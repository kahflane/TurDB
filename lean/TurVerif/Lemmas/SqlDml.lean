import TurVerif.Model.SqlDml
/-!
What a scan sees of the tombstone store `TurVerif.SqlDml` after each of the engine's write paths.
The INSERT loop writes the longest prefix of its rows that passes validation; the tombstone-blind
walks of DELETE and UPDATE are described on the live slots.
-/
theorem TurVerif.length_filter_add {α : Type} (p : α → Bool) (l : List α) :
    (l.filter p).length + (l.filter (fun x => !p x)).length = l.length := by
  rw [← List.length_append]
  exact (List.filter_append_perm p l).length_eq

namespace TurVerif.SqlDml
open TurVerif.Sql TurVerif.SqlDb

theorem visible_push (st : TStore) (r : Row) : visible (push st r) = visible st ++ [r] := by
  simp [visible, push, List.filter_append]

/-- The INSERT loop started at row number `i`: either every row passes, all are written and the
header is raised to `hdr + i +` their number; or row `i + j` is the first to fail, the `j` rows
before it are written and the header is not touched. -/
theorem insertLoop_go (ok : List Row → Row → Bool) (hdr : Nat) (rows : List Row) (cur : TStore)
    (i : Nat) :
    (∃ st', insertLoop.go ok hdr cur i rows = (st', none) ∧ visible st' = visible cur ++ rows ∧
        st'.rowCount = hdr + i + rows.length) ∨
    (∃ j st', insertLoop.go ok hdr cur i rows = (st', some (i + j)) ∧ j < rows.length ∧
        visible st' = visible cur ++ rows.take j ∧ st'.rowCount = cur.rowCount) := by
  induction rows generalizing cur i with
  | nil => exact .inl ⟨_, rfl, (List.append_nil _).symm, rfl⟩
  | cons r rest ih =>
    unfold insertLoop.go
    split
    · have hv : ∀ l, visible (push cur r) ++ l = visible cur ++ r :: l := fun l => by
        rw [visible_push, List.append_assoc]; rfl
      rcases ih (push cur r) (i + 1) with ⟨st', he, h1, h2⟩ | ⟨j, st', he, hj, h1, h2⟩
      · exact .inl ⟨st', he, h1.trans (hv _), h2.trans (Nat.add_right_comm (hdr + i) 1 _)⟩
      · exact .inr ⟨j + 1, st', he.trans (by rw [Nat.add_right_comm i 1 j]; rfl),
          Nat.succ_lt_succ hj, h1.trans (hv _), h2⟩
    · exact .inr ⟨0, cur, rfl, Nat.succ_pos _, (List.append_nil _).symm, rfl⟩

/-- DELETE hides exactly the matching rows from a scan (tombstones that match stay hidden) -/
theorem visible_deleteWhere (p : Row → Bool) (st : TStore) :
    visible (deleteWhere p st).1 = (visible st).filter (fun r => !p r) := by
  simp only [visible, deleteWhere, List.filter_map, List.map_map, List.filter_filter]
  rw [List.filter_congr (q := fun s => !p s.row && !s.dead) fun s _ => by
    cases h : p s.row <;> simp [h]]
  exact List.map_congr_left fun s _ => by simp only [Function.comp_apply]; split <;> rfl

/-- a tombstone-blind walk selects the selected visible rows and, on top of them, every tombstone
that matches -/
theorem selected_length (p : Row → Bool) (st : TStore) :
    (st.slots.filter (fun s => p s.row)).length = ((visible st).filter p).length + deadSel p st := by
  rw [visible, List.filter_map, List.length_map, List.filter_filter, deadSel,
    ← length_filter_add (fun s => !s.dead) (st.slots.filter fun s => p s.row),
    List.filter_filter, List.filter_filter]
  congr 3 <;> funext s <;> cases s.dead <;> simp

variable (p : Row → Bool) (st : TStore) (hd : ∀ sl ∈ st.slots, sl.dead = true → p sl.row = false)
include hd

theorem deadSel_eq_zero : deadSel p st = 0 :=
  List.length_eq_zero_iff.mpr (List.filter_eq_nil_iff.mpr fun s hs h => by
    cases hdead : s.dead
    · simp [hdead] at h
    · simp [hdead, hd s hs hdead] at h)

/-- when no tombstone matches, UPDATE rewrites live slots only and keeps them live -/
theorem visible_updateWhere (f : Row → Row) :
    visible (updateWhere p f st).1 = (visible st).map (fun r => if p r then f r else r) := by
  simp only [visible, updateWhere, List.filter_map, List.map_map]
  rw [List.filter_congr (q := fun s => !s.dead) fun s hs => by
    cases h : p s.row
    · simp [h]
    · cases hdead : s.dead
      · simp [h]
      · rw [hd s hs hdead] at h; cases h]
  exact List.map_congr_left fun s _ => by simp only [Function.comp_apply]; split <;> rfl

end TurVerif.SqlDml
