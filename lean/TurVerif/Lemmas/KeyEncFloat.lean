import TurVerif.Lemmas.KeyEncScalar
/-! C26: two f64 keys compare as the IEEE order of the bit patterns: by the class byte, and inside the
negative and the positive class by the 8-byte body. -/
namespace TurVerif.KeyEnc

theorem float_float (x y : Nat) (ha : wf (.float x) = true) (hb : wf (.float y) = true)
    (r1 r2 : List Nat) :
    lexCmp (enc (.float x) ++ r1) (enc (.float y) ++ r2) = (fcmp64 x y).then (lexCmp r1 r2) := by
  simp only [wf, decide_eq_true_eq] at ha hb
  unfold fcmp64
  rcases float_class x with ⟨nx, _, ex⟩ | ⟨nx, cx⟩ <;> rcases float_class y with ⟨ny, _, ey⟩ | ⟨ny, cy⟩ <;>
    rw [nx, ny]
  · rw [ex, ey]; rfl
  · rcases cy with ⟨_, ey⟩ | ⟨_, ey⟩ | ⟨_, ey⟩ | ⟨_, ey⟩ | ⟨_, ey⟩ <;>
      rw [ex, ey] <;> simp [cmpNat]
  · rcases cx with ⟨_, ex⟩ | ⟨_, ex⟩ | ⟨_, ex⟩ | ⟨_, ex⟩ | ⟨_, ex⟩ <;>
      rw [ex, ey] <;> simp [cmpNat]
  · rw [if_neg (by decide), if_neg (by decide)]
    simp only [isNan64, decide_eq_false_iff_not] at nx ny
    -- different classes: the prefix bytes and the positions are ordered the same way
    have lt : ∀ {s t : Nat} {u v : List Nat} {p q : Int}, s < t → p < q →
        lexCmp (s :: u ++ r1) (t :: v ++ r2) = (cmpInt p q).then (lexCmp r1 r2) := fun hst h => by
      rw [cmpInt_lt h, List.cons_append, List.cons_append, lexCmp_cons_cons, cmpNat_lt hst]; rfl
    have gt : ∀ {s t : Nat} {u v : List Nat} {p q : Int}, t < s → q < p →
        lexCmp (s :: u ++ r1) (t :: v ++ r2) = (cmpInt p q).then (lexCmp r1 r2) := fun hst h => by
      rw [cmpInt_gt h, List.cons_append, List.cons_append, lexCmp_cons_cons, cmpNat_gt hst]; rfl
    -- the same class: equal keys, or one prefix byte and an order-preserving 8-byte body
    have eq : ∀ {s : Nat} {p q : Int}, p = q →
        lexCmp ([s] ++ r1) ([s] ++ r2) = (cmpInt p q).then (lexCmp r1 r2) := fun h => by
      rw [h, cmpInt_self, lexCmp_append_left]; rfl
    have body : ∀ {s a b : Nat} {p q : Int}, a < 18446744073709551616 → b < 18446744073709551616 →
        cmpNat a b = cmpInt p q →
        lexCmp (s :: be 8 a ++ r1) (s :: be 8 b ++ r2) = (cmpInt p q).then (lexCmp r1 r2) :=
      fun ha hb h => by
        rw [List.cons_append, List.cons_append, lexCmp_cons_self,
          be_cmp 8 ha hb, h]
    -- the 5 x 5 pairs of classes in the order −∞, +∞, negative, zero, positive (x outer, y inner)
    rcases cx with ⟨_, ex, px⟩ | ⟨_, ex, px⟩ | ⟨_, ex, px⟩ | ⟨_, ex, px⟩ | ⟨_, ex, px⟩ <;>
      rcases cy with ⟨_, ey, py⟩ | ⟨_, ey, py⟩ | ⟨_, ey, py⟩ | ⟨_, ey, py⟩ | ⟨_, ey, py⟩ <;>
      rw [ex, ey]
    · exact eq (by omega)
    · exact lt (by decide) (by omega)
    · exact lt (by decide) (by omega)
    · exact lt (by decide) (by omega)
    · exact lt (by decide) (by omega)
    · exact gt (by decide) (by omega)
    · exact eq (by omega)
    · exact gt (by decide) (by omega)
    · exact gt (by decide) (by omega)
    · exact gt (by decide) (by omega)
    · exact gt (by decide) (by omega)
    · exact lt (by decide) (by omega)
    · exact body (by omega) (by omega) (cmpNat_of_cmpInt (by omega) (by omega)
        (by omega))
    · exact lt (by decide) (by omega)
    · exact lt (by decide) (by omega)
    · exact gt (by decide) (by omega)
    · exact lt (by decide) (by omega)
    · exact gt (by decide) (by omega)
    · exact eq (by omega)
    · exact lt (by decide) (by omega)
    · exact gt (by decide) (by omega)
    · exact lt (by decide) (by omega)
    · exact gt (by decide) (by omega)
    · exact gt (by decide) (by omega)
    · exact body (by omega) (by omega) (cmpNat_of_cmpInt (by omega) (by omega) (by omega))
end TurVerif.KeyEnc
