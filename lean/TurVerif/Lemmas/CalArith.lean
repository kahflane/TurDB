import TurVerif.Lemmas.CalSpec
import TurVerif.Lemmas.CalInt
/-! The forward converters of C41 against the calendar spec: the loops of literal.rs, the JDN formula of
constraints/mod.rs and predicate.rs, `date_to_days` and `day_of_week` of datetime.rs. -/
namespace TurVerif.Cal

theorem litIsLeap_nat (k : Nat) : litIsLeap (k : Int) = isLeap k := by
  unfold litIsLeap isLeap
  rw [show (k : Int).tmod 4 = (k % 4 : Nat) from (Int.ofNat_tmod k 4).symm,
    show (k : Int).tmod 100 = (k % 100 : Nat) from (Int.ofNat_tmod k 100).symm,
    show (k : Int).tmod 400 = (k % 400 : Nat) from (Int.ofNat_tmod k 400).symm]
  simp only [bne, BEq.beq, Int.natCast_eq_zero]

theorem litDaysInMonth_nat (y m : Nat) : litDaysInMonth (y : Int) m = monthLen y m := by
  unfold litDaysInMonth monthLen
  rw [litIsLeap_nat]
  by_cases h2 : m = 2
  · subst h2; rfl
  · by_cases h30 : m = 4 ∨ m = 6 ∨ m = 9 ∨ m = 11
    · rw [if_neg (by omega), if_pos h30, if_neg h2, if_pos h30]
    · rw [if_neg h2, if_neg h30, if_neg h30, if_neg h2]
      by_cases h31 : m = 1 ∨ m = 3 ∨ m = 5 ∨ m = 7 ∨ m = 8 ∨ m = 10 ∨ m = 12
      · rw [if_pos h31, if_pos (by omega)]
      · rw [if_neg h31, if_neg (by omega)]

/-- the summand of `litYearLoop`, in the shape it has in the unfolded loop -/
theorem litYearLen_nat (k : Nat) : (if litIsLeap (k : Int) = true then (366 : Int) else 365) = (yearLen k : Nat) := by
  rw [litIsLeap_nat]; unfold yearLen; split <;> simp

theorem litYearLoop_nat (sign : Int) (n y0 : Nat) (acc : Int) (h : 1 ≤ y0) :
    litYearLoop sign n (y0 : Int) acc
      = acc + sign * (((daysUpToYear (y0 + n - 1) : Nat) : Int) - (daysUpToYear (y0 - 1) : Nat)) := by
  induction n generalizing y0 acc with
  | zero => simp [litYearLoop]
  | succ k ih =>
    obtain ⟨z, rfl⟩ := Nat.exists_eq_add_one.2 h
    rw [litYearLoop, litYearLen_nat, show ((z + 1 : Nat) : Int) + 1 = ((z + 1 + 1 : Nat) : Int) by omega,
      ih (z + 1 + 1) _ (by omega), Int.add_assoc, ← Int.mul_add,
      show z + 1 + 1 + k - 1 = z + 1 + (k + 1) - 1 by omega]
    show _ = acc + sign * (_ - ((daysUpToYear z : Nat) : Int))
    rw [show z + 1 + 1 - 1 = z + 1 by omega, daysUpToYear_step]
    congr 2; omega

theorem litYearPart_nat (y : Nat) (h : 1 ≤ y) :
    litYearPart (y : Int) = ((daysUpToYear (y - 1) : Nat) : Int) - 719162 := by
  unfold litYearPart
  split
  · rename_i h'
    have e : ((y : Int) - 1970).toNat = y - 1970 := by omega
    have e2 : (1970 : Int) = ((1970 : Nat) : Int) := rfl
    rw [e, e2, litYearLoop_nat _ _ _ _ (by omega)]
    have : 1970 + (y - 1970) - 1 = y - 1 := by omega
    rw [this]
    have : (1970 : Nat) - 1 = 1969 := rfl
    rw [this, daysUpToYear_1969]; omega
  · rename_i h'
    have e : (1970 - (y : Int)).toNat = 1970 - y := by omega
    rw [e, litYearLoop_nat _ _ _ _ h]
    have : y + (1970 - y) - 1 = 1969 := by omega
    rw [this, daysUpToYear_1969]; omega

theorem litMonthLoop_nat (y n m : Nat) (acc : Int) (h : 1 ≤ m) :
    litMonthLoop (y : Int) n m acc
      = acc + ((daysUpToMonth y (m + n - 1) : Nat) : Int) - (daysUpToMonth y (m - 1) : Nat) := by
  induction n generalizing m acc with
  | zero => simp [litMonthLoop]
  | succ k ih =>
    obtain ⟨j, rfl⟩ := Nat.exists_eq_add_one.2 h
    rw [litMonthLoop, litDaysInMonth_nat, ih (j + 1 + 1) _ (by omega),
      show j + 1 + 1 + k - 1 = j + 1 + (k + 1) - 1 by omega]
    show _ + _ - ((daysUpToMonth y j + monthLen y (j + 1) : Nat) : Int) = _ + _ - ((daysUpToMonth y j : Nat) : Int)
    omega

/-- literal.rs `date_to_days_since_epoch` is the calendar spec shifted to the Unix epoch (all years ≥ 1,
any month/day field) -/
theorem litDateToDays_nat (y m d : Nat) (hy : 1 ≤ y) :
    litDateToDays (y : Int) m d = (daysFromCivil y m d : Nat) - 719163 := by
  unfold litDateToDays litDateFrom daysFromCivil
  rw [litYearPart_nat y hy, litMonthLoop_nat _ _ _ _ (by omega)]
  have : 1 + (m - 1) - 1 = m - 1 := by omega
  rw [this]
  have : daysUpToMonth y (1 - 1) = 0 := rfl
  rw [this]
  dsimp only
  omega

theorem months (m : Nat) (h1 : 1 ≤ m) (h2 : m ≤ 12) : m = 1 ∨ m = 2 ∨ m = 3 ∨ m = 4 ∨ m = 5 ∨ m = 6 ∨ m = 7 ∨ m = 8 ∨ m = 9 ∨ m = 10 ∨ m = 11 ∨ m = 12 := by omega

/-- the closed formula of the code for the year `a` and month `mm` counted from March, where the year
origin lies `q` whole 400-year cycles before year 0 (the JDN formula has `q = 12`: its years start at −4800) -/
theorem march_formula (Y k d N q : Nat) (a mm : Int) (ha : a = Y + 400 * q) (hmm : mm = k)
    (hN : N + 306 = daysUpToYear Y + (153 * k + 2) / 5 + d) :
    365 * a + a.tdiv 4 - a.tdiv 100 + a.tdiv 400 + (153 * mm + 2).tdiv 5 + d = N + 306 + 146097 * q := by
  have := daysUpToYear_closed Y
  subst ha hmm
  simp (disch := omega) only [Int.tdiv_eq_ediv_of_nonneg]
  omega

theorem defDaysFromYmd_nat (y m d : Nat) (hy : 1 ≤ y) (hm1 : 1 ≤ m) (hm2 : m ≤ 12) (hd : d < 2147483648) :
    defDaysFromYmd (y : Int) m d = (daysFromCivil y m d : Nat) - 719163 := by
  unfold defDaysFromYmd
  rw [asI32_small d hd, asI32_small m (by omega)]
  dsimp only
  by_cases hm : m ≤ 2
  · rw [show (14 - (m : Int)).tdiv 12 = 1 by rw [Int.tdiv_eq_ediv_of_nonneg (by omega)]; omega]
    have := march_formula (y - 1) (m + 9) d _ 12 (y + 4800 - 1) (m + 12 * 1 - 3) (by omega) (by omega) (daysFromCivil_janFeb y m d hm1 hm)
    omega
  · rw [show (14 - (m : Int)).tdiv 12 = 0 by rw [Int.tdiv_eq_ediv_of_nonneg (by omega)]; omega]
    have := march_formula y (m - 3) d _ 12 (y + 4800 - 0) (m + 12 * 0 - 3) (by omega) (by omega) (daysFromCivil_march y m d hy (by omega) hm2)
    omega

theorem fnDateToDays_nat (y m d : Nat) (hy : 1 ≤ y) (hm1 : 1 ≤ m) (hm2 : m ≤ 12) :
    fnDateToDays (y : Int) m d = (daysFromCivil y m d : Nat) := by
  unfold fnDateToDays
  dsimp only
  by_cases hm : m ≤ 2
  · rw [if_pos hm, if_pos hm]
    have := march_formula (y - 1) (m + 9) d _ 0 (y - 1) (m + 12 - 3) (by omega) (by omega) (daysFromCivil_janFeb y m d hm1 hm)
    omega
  · rw [if_neg hm, if_neg hm]
    have := march_formula y (m - 3) d _ 0 y (m - 3) (by omega) (by omega) (daysFromCivil_march y m d hy (by omega) hm2)
    omega

/-- `day_of_week` applies Rust's truncating `%` twice, the first time to a sum `x` that can be negative:
the residue is then in `[-6, 0]`, and `+ 6` makes it non-negative before the second `%` -/
theorem zeller_mod (x : Int) : ((x.tmod 7) + 6).tmod 7 = (x + 6) % 7 := by
  rw [Int.tmod_eq_emod (a := x)]
  split
  · simp only [Int.natCast_zero, Int.sub_zero]
    rw [Int.tmod_eq_emod_of_nonneg (by omega)]; omega
  · rename_i h
    have h1 : x < 0 := by omega
    have h2 : x % 7 ≠ 0 := by omega
    have : ((7 : Int).natAbs : Int) = 7 := rfl
    rw [this, Int.tmod_eq_emod_of_nonneg (by omega)]; omega

/-- Zeller's sum for the year `Y` counted from March and month `k` (0 = March), against the day number `N`.
Modulo 7 a century is −2 days, a year 1 day, and the two month terms differ by `28 * k − 10`. -/
theorem zeller_sum (Y k d N : Nat) (a mm : Int) (ha : a = Y) (hmm : mm = k + 3)
    (hN : N + 306 = daysUpToYear Y + (153 * k + 2) / 5 + d) :
    ((d : Int) + (13 * (mm + 1)).tdiv 5 + a.tmod 100 + (a.tmod 100).tdiv 4 + (a.tdiv 100).tdiv 4
        - 2 * a.tdiv 100 + 6) % 7 = (N : Int) % 7 := by
  subst ha hmm
  rw [daysUpToYear_split] at hN
  have h1 : (153 * k + 2) / 5 = 28 * k + (13 * k + 2) / 5 := by omega
  have h2 : (13 * ((k : Int) + 3 + 1)).tdiv 5 = ((13 * k + 2) / 5 + 10 : Nat) :=
    tdiv_eq_of_bounds (by omega) (by omega)
  rw [h2, show (Y : Int).tdiv 100 = (Y / 100 : Nat) from (Int.ofNat_tdiv Y 100).symm,
    show (Y : Int).tmod 100 = (Y % 100 : Nat) from (Int.ofNat_tmod Y 100).symm,
    show ((Y % 100 : Nat) : Int).tdiv 4 = (Y % 100 / 4 : Nat) from (Int.ofNat_tdiv _ 4).symm,
    show ((Y / 100 : Nat) : Int).tdiv 4 = (Y / 100 / 4 : Nat) from (Int.ofNat_tdiv _ 4).symm]
  clear h2
  omega

theorem fnDayOfWeekRaw_nat (y m d : Nat) (hy : 1 ≤ y) (hm1 : 1 ≤ m) (hm2 : m ≤ 12) :
    fnDayOfWeekRaw (y : Int) m d = ((daysFromCivil y m d : Nat) : Int) % 7 := by
  unfold fnDayOfWeekRaw
  dsimp only
  rw [zeller_mod]
  by_cases hm : m < 3
  · rw [if_pos hm, if_pos hm]
    exact zeller_sum (y - 1) (m + 9) d _ _ _ (by omega) (by omega) (daysFromCivil_janFeb y m d hm1 (by omega))
  · rw [if_neg hm, if_neg hm]
    exact zeller_sum y (m - 3) d _ _ _ rfl (by omega) (daysFromCivil_march y m d hy (by omega) hm2)

end TurVerif.Cal
