import TurVerif.Lemmas.Like
/-!
C14 (LIKE): the byte-level declarative definition `likeSpecB` coincides with the
character-level definition `Sql.likeSpec` on ASCII strings (UTF-8 bytes of an ASCII
string are its code points).  The second half goes through the way core implements
`ByteArray.toList` and `String.utf8EncodeChar` (`ByteArray.toList.loop`,
`String.utf8EncodeChar_eq_singleton`): a change of toolchain can break these proofs.
-/
namespace TurVerif.Like
open TurVerif.Sql (tails likeSpec)

theorem tails_map {α β : Type} (f : α → β) (s : List α) :
    tails (s.map f) = (tails s).map (List.map f) := by
  induction s with
  | nil => rfl
  | cons x xs ih => simp [tails, ih]

theorem toNat_eq_37 (c : Char) : c.toNat = 37 ↔ c = '%' :=
  Char.toNat_inj (d := '%')

theorem toNat_eq_95 (c : Char) : c.toNat = 95 ↔ c = '_' :=
  Char.toNat_inj (d := '_')

/-- code-point view: the byte-level definition on code points is the character-level one
(all characters, not only ASCII: `Char.toNat` is injective) -/
theorem likeSpecB_map_toNat (p : List Char) : ∀ s : List Char,
    likeSpecB (p.map Char.toNat) (s.map Char.toNat) = likeSpec p s := by
  induction p with
  | nil => intro s; cases s <;> simp [likeSpecB, likeSpec]
  | cons c p ih =>
    intro s
    by_cases hc : c = '%'
    · subst hc
      have : Char.toNat '%' = 37 := rfl
      simp only [List.map_cons, this, likeSpecB, likeSpec, if_true, tails_map, List.any_map,
        Function.comp_def, ih]
    · have hn : c.toNat ≠ 37 := fun h => hc ((toNat_eq_37 c).mp h)
      cases s with
      | nil => simp [likeSpecB, likeSpec, hc, hn]
      | cons x s =>
        simp only [List.map_cons, likeSpecB, likeSpec, if_neg hc, if_neg hn, ih s, toNat_eq_95,
          Char.toNat_inj]

theorem ba_loop (bs : ByteArray) (i : Nat) (r : List UInt8) :
    ByteArray.toList.loop bs i r = r.reverse ++ bs.data.toList.drop i := by
  fun_induction ByteArray.toList.loop bs i r with
  | case1 i r h ih =>
    have h2 : i < bs.data.toList.length := by rwa [Array.length_toList, ByteArray.size_data]
    rw [ih, List.drop_eq_getElem_cons h2, List.reverse_cons, List.append_assoc,
      List.singleton_append]
    congr 2
    cases bs with
    | mk d => exact getElem!_pos d i h
  | case2 i r h =>
    rw [List.drop_eq_nil_of_le (by rw [Array.length_toList, ByteArray.size_data]; omega),
      List.append_nil]

theorem ba_toList (bs : ByteArray) : bs.toList = bs.data.toList :=
  ba_loop bs 0 []

theorem enc_ascii (l : List Char) (h : ∀ c ∈ l, c.toNat < 128) :
    (l.flatMap String.utf8EncodeChar).map UInt8.toNat = l.map Char.toNat := by
  induction l with
  | nil => rfl
  | cons c l ih =>
    have hc : c.toNat < 128 := h c (by simp)
    have h1 : c.utf8Size = 1 := by
      rw [Char.utf8Size_eq_one_iff, UInt32.le_iff_toNat_le]
      show c.toNat ≤ 127
      omega
    rw [List.flatMap_cons, String.utf8EncodeChar_eq_singleton h1, List.map_append,
      ih (fun x hx => h x (by simp [hx]))]
    simp only [List.map_cons, List.map_nil, List.singleton_append, List.cons.injEq, and_true]
    show c.val.toNat % 256 = c.val.toNat
    have : c.val.toNat < 128 := hc
    omega

/-- the bytes the engine's matcher sees (same expression as the model driver uses) -/
def bytesOf (s : String) : List Nat := s.toUTF8.toList.map (·.toNat)

theorem bytesOf_ascii (s : String) (h : ∀ c ∈ s.toList, c.toNat < 128) :
    bytesOf s = s.toList.map Char.toNat := by
  unfold bytesOf
  rw [ba_toList, String.toUTF8_eq_toByteArray, ← String.utf8Encode_toList, List.utf8Encode,
    List.data_toByteArray]
  exact enc_ascii _ h

end TurVerif.Like
