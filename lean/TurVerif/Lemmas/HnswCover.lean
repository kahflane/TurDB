import TurVerif.Model.Hnsw
import TurVerif.Lemmas.HnswHeap
/-!
Completeness of the level-0 beam search when the search width covers the index:
if every neighbour id is an allocated node (`< N`) and `N ≤ ef`, the beam visits – and keeps as a
result – every node that is reachable from its start node along level-0 edges.
-/
namespace TurVerif.HnswCover
open TurVerif.Hnsw TurVerif.HnswHeap

-- with a context written as a structure instance the unifier would otherwise unfold `heapPush`
-- before it projects the field
attribute [local irreducible] heapPush

theorem D.le_total (a b : D) : D.le a b = true ∨ D.le b a = true := by
  cases a <;> cases b <;> simp [D.le, D.lt]
  rename_i x y
  rcases @Rat.le_total x y with h | h
  · left; exact Rat.not_lt.2 h
  · right; exact Rat.not_lt.2 h

theorem D.le_trans (a b c : D) (h1 : D.le a b = true) (h2 : D.le b c = true) :
    D.le a c = true := by
  cases a <;> cases b <;> cases c <;> simp_all [D.le, D.lt]
  rename_i x y z
  exact Rat.not_lt.2 (Rat.le_trans (Rat.not_lt.1 h1) (Rat.not_lt.1 h2))

theorem resLe_preorder : TotalPreorder resLe :=
  ⟨fun a b => D.le_total a.dist b.dist, fun a b c => D.le_trans a.dist b.dist c.dist⟩

theorem nodup_bounded_length (N : Nat) (l : List Nat) (hn : l.Nodup) (hb : ∀ x ∈ l, x < N) :
    l.length ≤ N :=
  List.length_range (n := N) ▸
    hn.length_le_of_subset (l₂ := List.range N) fun x hx => List.mem_range.2 (hb x hx)

/-- While there is room among the results nothing is evicted. -/
theorem addBoth_of_lt (c : Ctx) (x : Cand) (h : c.results.length < c.ef) :
    (c.addCand x).addResult x =
      { c with cands := heapPush candLe c.cands x, results := heapPush resLe c.results x } := by
  unfold Ctx.addResult Ctx.addCand
  simp only []
  rw [if_neg]
  rw [heapPush_length]
  exact Nat.not_lt.2 h

/-- popping everything off a max-heap yields an ascending list -/
theorem popAll_spec (fuel : Nat) (h acc : List Cand) (hh : Heap resLe h) (hf : h.length ≤ fuel)
    (hacc : acc.Pairwise (fun a b => D.le a.dist b.dist = true))
    (hcross : ∀ x ∈ h, ∀ y ∈ acc, D.le x.dist y.dist = true) :
    (popAll fuel h acc).Pairwise (fun a b => D.le a.dist b.dist = true) ∧
    (popAll fuel h acc).Perm (h ++ acc) := by
  fun_induction popAll fuel h acc with
  | case1 h acc =>
    obtain rfl := List.length_eq_zero_iff.1 (Nat.le_zero.1 hf)
    exact ⟨hacc, .refl _⟩
  | case2 f h acc hp =>
    obtain rfl := heapPop_none.1 hp
    exact ⟨hacc, .refl _⟩
  | case3 f h acc x h' hp ih =>
    have ⟨hh', hperm, hmax, _⟩ := heapPop_spec resLe_preorder hh hp
    have hsub : ∀ z ∈ h', z ∈ h := fun z hz => hperm.mem_iff.2 (List.mem_cons_of_mem _ hz)
    have r := ih hh' (Nat.le_of_succ_le_succ (Nat.le_trans (Nat.le_of_eq hperm.length_eq.symm) hf))
      (List.pairwise_cons.2 ⟨hcross x (hperm.mem_iff.2 (List.mem_cons_self ..)), hacc⟩)
      (fun z hz => List.forall_mem_cons.2 ⟨hmax z (hsub z hz), hcross z (hsub z hz)⟩)
    exact ⟨r.1, r.2.trans (List.perm_middle.trans (hperm.symm.append_right acc))⟩

/-- `finalize` truncates an ascending arrangement of the results -/
theorem finalize_eq_take (c : Ctx) (h : Heap resLe c.results) (k : Nat) :
    ∃ l : List Cand, l.Perm c.results ∧ l.Pairwise (fun a b => D.le a.dist b.dist = true) ∧
      finalize c k = l.take k := by
  have sp := popAll_spec c.results.length c.results [] h (Nat.le_refl _) .nil nofun
  rw [List.append_nil] at sp
  exact ⟨_, sp.2, sp.1, rfl⟩

/-- invariant of the beam while nothing is ever evicted: every visited node is still among the results
(`rlen`: there are no others) and every candidate is a result, which is why the loop's early exit is
never taken -/
structure Cov (N ef : Nat) (c : Ctx) : Prop where
  heap : Heap resLe c.results
  vnodup : c.visited.Nodup
  vvalid : ∀ n ∈ c.visited, n < N
  rlen : c.results.length = c.visited.length
  candRes : ∀ x ∈ c.cands, x ∈ c.results
  visRes : ∀ n ∈ c.visited, ∃ x ∈ c.results, x.node = n
  efEq : c.ef = ef

/-- effect of visiting neighbours; `meas` is the quantity `beamLoop_cover` bounds by the fuel: a visit
adds one candidate and uses up one unvisited id -/
structure Step (N ef : Nat) (c c' : Ctx) : Prop where
  cov : Cov N ef c'
  vmono : ∀ n ∈ c.visited, n ∈ c'.visited
  cmono : ∀ x ∈ c.cands, x ∈ c'.cands
  fresh : ∀ n ∈ c'.visited, n ∈ c.visited ∨ ∃ x ∈ c'.cands, x.node = n
  meas : c'.cands.length + (N - c'.visited.length) = c.cands.length + (N - c.visited.length)

/-- every visited node is still queued or has all its neighbours visited -/
def Closed (getN : NodeId → List NodeId) (c : Ctx) : Prop :=
  ∀ n ∈ c.visited, (∃ x ∈ c.cands, x.node = n) ∨ ∀ nb ∈ getN n, nb ∈ c.visited

section
variable {N ef : Nat} (hN : N ≤ ef) (dist : NodeId → D)

theorem Step.refl {c : Ctx} (h : Cov N ef c) : Step N ef c c :=
  ⟨h, fun _ h => h, fun _ h => h, fun _ h => Or.inl h, rfl⟩

theorem Step.trans {a b c : Ctx} (h1 : Step N ef a b) (h2 : Step N ef b c) :
    Step N ef a c :=
  ⟨h2.cov, fun n hn => h2.vmono n (h1.vmono n hn), fun x hx => h2.cmono x (h1.cmono x hx),
    fun n hn => (h2.fresh n hn).elim
      (fun h => (h1.fresh n h).imp_right fun ⟨x, hx, e⟩ => ⟨x, h2.cmono x hx, e⟩) Or.inr,
    h2.meas.trans h1.meas⟩

include hN

/-- With `N ≤ ef` the results never fill up: a node that is not yet visited finds room. -/
theorem Cov.room {c : Ctx} (h : Cov N ef c) {n : NodeId}
    (hin : n ∉ c.visited) (hv : n < N) : c.visited.length < N ∧ c.results.length < c.ef := by
  have hlen : c.visited.length < N := nodup_bounded_length N (n :: c.visited)
    (List.nodup_cons.2 ⟨hin, h.vnodup⟩) (List.forall_mem_cons.2 ⟨hv, h.vvalid⟩)
  exact ⟨hlen, h.rlen ▸ h.efEq ▸ Nat.lt_of_lt_of_le hlen hN⟩

/-- A node not yet visited is marked visited and pushed on both heaps. -/
theorem Cov.visit {c : Ctx} (h : Cov N ef c) (x : Cand)
    (hin : x.node ∉ c.visited) (hv : x.node < N) :
    Step N ef c (({ c with visited := x.node :: c.visited }.addCand x).addResult x) ∧
      x.node ∈ (({ c with visited := x.node :: c.visited }.addCand x).addResult x).visited := by
  have ⟨hlen, hroom⟩ := h.room hN hin hv
  rw [addBoth_of_lt { c with visited := x.node :: c.visited } x hroom]
  refine ⟨⟨⟨heapPush_heap resLe_preorder _ h.heap, List.nodup_cons.2 ⟨hin, h.vnodup⟩,
    List.forall_mem_cons.2 ⟨hv, h.vvalid⟩, (heapPush_length ..).trans (congrArg (· + 1) h.rlen),
    fun y hy => mem_heapPush.2 ((mem_heapPush.1 hy).imp_right (h.candRes y)), ?_, h.efEq⟩,
    fun n hn => List.mem_cons_of_mem _ hn, fun y hy => mem_heapPush.2 (.inr hy), ?_, ?_⟩,
    List.mem_cons_self ..⟩
  · intro n hn
    rcases List.mem_cons.1 hn with e | e
    · exact ⟨x, mem_heapPush.2 (.inl rfl), e.symm⟩
    · have ⟨y, hy, e'⟩ := h.visRes n e
      exact ⟨y, mem_heapPush.2 (.inr hy), e'⟩
  · intro n hn
    rcases List.mem_cons.1 hn with e | e
    · exact .inr ⟨x, mem_heapPush.2 (.inl rfl), e.symm⟩
    · exact .inl e
  · simp only [heapPush_length, List.length_cons]; omega

theorem visitNb_step (c : Ctx) (nb : NodeId) (h : Cov N ef c) (hv : nb < N) :
    Step N ef c (visitNb dist c nb) ∧ nb ∈ (visitNb dist c nb).visited := by
  by_cases hin : nb ∈ c.visited
  · have e : visitNb dist c nb = c := by simp [visitNb, hin]
    rw [e]; exact ⟨Step.refl h, hin⟩
  · have e : visitNb dist c nb =
        ({ c with visited := nb :: c.visited }.addCand ⟨nb, dist nb⟩).addResult ⟨nb, dist nb⟩ := by
      simp [visitNb, hin, (h.room hN hin hv).2]
    rw [e]
    exact h.visit hN ⟨nb, dist nb⟩ hin hv

theorem foldl_step (nbs : List NodeId) (c : Ctx) (h : Cov N ef c) (hv : ∀ nb ∈ nbs, nb < N) :
    Step N ef c (nbs.foldl (visitNb dist) c) ∧
      ∀ nb ∈ nbs, nb ∈ (nbs.foldl (visitNb dist) c).visited := by
  induction nbs generalizing c with
  | nil => exact ⟨Step.refl h, nofun⟩
  | cons nb rest ih =>
    have ⟨hnb, hrest⟩ := List.forall_mem_cons.1 hv
    have s1 := visitNb_step hN dist c nb h hnb
    have s2 := ih (visitNb dist c nb) s1.1.cov hrest
    exact ⟨s1.1.trans s2.1, List.forall_mem_cons.2 ⟨s2.1.vmono nb s1.2, s2.2⟩⟩

theorem beamLoop_cover (getN : NodeId → List NodeId)
    (hvalid : ∀ n nb, nb ∈ getN n → nb < N) (fuel : Nat) (c : Ctx) (h : Cov N ef c)
    (hcl : Closed getN c) (hf : c.cands.length + (N - c.visited.length) < fuel) :
    Cov N ef (beamLoop getN dist fuel c) ∧ Closed getN (beamLoop getN dist fuel c) ∧
      (beamLoop getN dist fuel c).cands = [] ∧
      ∀ n ∈ c.visited, n ∈ (beamLoop getN dist fuel c).visited := by
  fun_induction beamLoop getN dist fuel c with
  | case1 => exact absurd hf (Nat.not_lt_zero _)
  | case2 f c hp => exact ⟨h, hcl, heapPop_none.1 hp, fun _ hn => hn⟩
  | case3 f c cur rest hp c' hbreak =>
    -- the loop does not break: `cur` is a result, so it is ≤ the heap top
    have hcur : cur ∈ c.results :=
      h.candRes cur ((heapPop_perm hp).mem_iff.2 (List.mem_cons_self ..))
    have ⟨i, hi, hget⟩ := List.getElem_of_mem hcur
    have htop := List.getElem?_eq_getElem (Nat.zero_lt_of_lt hi)
    have hmax := heap_top_max resLe_preorder h.heap htop i cur
      (hget ▸ List.getElem?_eq_getElem hi)
    simp only [c', Ctx.worst, List.head?_eq_getElem?, htop] at hbreak
    simp only [resLe, D.le, hbreak] at hmax
    cases hmax
  | case4 f c cur rest hp c' _ ih =>
    have hperm := heapPop_perm hp
    have h1 : Cov N ef c' :=
      ⟨h.heap, h.vnodup, h.vvalid, h.rlen,
        fun x hx => h.candRes x (hperm.mem_iff.2 (List.mem_cons_of_mem _ hx)), h.visRes, h.efEq⟩
    have fs := foldl_step hN dist (getN cur.node) c' h1 (hvalid cur.node)
    have hcl2 : Closed getN ((getN cur.node).foldl (visitNb dist) c') := by
      intro n hn
      rcases fs.1.fresh n hn with hold | hnew
      · rcases hcl n hold with ⟨x, hx, ex⟩ | hall
        · rcases List.mem_cons.1 (hperm.mem_iff.1 hx) with e | e
          · exact .inr (ex ▸ e ▸ fs.2)
          · exact .inl ⟨x, fs.1.cmono x e, ex⟩
        · exact .inr fun nb' hnb' => fs.1.vmono nb' (hall nb' hnb')
      · exact .inl hnew
    have hmeas : _ = rest.length + (N - c.visited.length) := fs.1.meas
    have hlen : c.cands.length = rest.length + 1 := hperm.length_eq
    have r := ih fs.1.cov hcl2 (by omega)
    exact ⟨r.1, r.2.1, r.2.2.1, fun n hn => r.2.2.2 n (fs.1.vmono n hn)⟩

end

inductive ReachN (getN : NodeId → List NodeId) (a : NodeId) : NodeId → Prop where
  | refl : ReachN getN a a
  | step {n nb : NodeId} : ReachN getN a n → nb ∈ getN n → ReachN getN a nb

/-- COVER: with `N ≤ ef`, valid neighbour ids and a valid start node, the beam keeps every node
reachable from the start as a result, and `finalize k` with `N ≤ k` returns all of them. -/
theorem beamSearch_cover (getN : NodeId → List NodeId) (dist : NodeId → D) (N ef k : Nat)
    (hN : N ≤ ef) (hk : N ≤ k) (hvalid : ∀ n nb, nb ∈ getN n → nb < N) (entry : Cand)
    (he : entry.node < N) (fuel : Nat) (hf : N + 1 < fuel) :
    ∀ n, ReachN getN entry.node n →
      n ∈ (finalize (beamSearch ef fuel entry getN dist) k).map (·.node) := by
  -- the two initial pushes of `beam_search` are a visit of the entry node from the empty context
  have c0 : Cov N ef { ef := ef } := ⟨heap_nil, List.nodup_nil, nofun, rfl, nofun, nofun, rfl⟩
  have ⟨s0, hent⟩ := c0.visit hN entry List.not_mem_nil he
  have hcl0 : Closed getN _ := fun n hn =>
    (s0.fresh n hn).elim (fun h => absurd h List.not_mem_nil) .inl
  have hm := s0.meas
  simp only [List.length_nil, Nat.sub_zero, Nat.zero_add] at hm
  have r := beamLoop_cover hN dist getN hvalid fuel _ s0.cov hcl0
    (by rw [hm]; exact Nat.lt_of_succ_lt hf)
  intro n hr
  have hvis : n ∈ (beamSearch ef fuel entry getN dist).visited := by
    induction hr with
    | refl => exact r.2.2.2 _ hent
    | step _ hnb ih =>
      rcases r.2.1 _ ih with ⟨x, hx, _⟩ | hall
      · exact absurd (r.2.2.1 ▸ hx) List.not_mem_nil
      · exact hall _ hnb
  have ⟨x, hx, ex⟩ := r.1.visRes n hvis
  -- `finalize` returns every result when `k` covers them
  have ⟨l, hperm, _, e⟩ := finalize_eq_take (beamSearch ef fuel entry getN dist) r.1.heap k
  have hlen : l.length ≤ k := hperm.length_eq ▸ r.1.rlen ▸
    Nat.le_trans (nodup_bounded_length N _ r.1.vnodup r.1.vvalid) hk
  rw [e, List.take_of_length_le hlen]
  exact List.mem_map.2 ⟨x, hperm.mem_iff.2 hx, ex⟩

end TurVerif.HnswCover
