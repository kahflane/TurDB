import TurVerif.Model.Catalog
/-! Field-level round trips of the catalog codec (C40): each reader, run on the matching encoder's
output followed by arbitrary bytes `r`, returns the value and leaves `r`. -/
namespace TurVerif.Catalog

theorem length_le (w : Nat) : ∀ n, (le n w).length = w := by
  induction w with
  | zero => intro n; rfl
  | succ w ih => intro n; simp [le, ih]

theorem length_zeros (n : Nat) : (zeros n).length = n := by
  induction n with
  | zero => rfl
  | succ n ih => simp [zeros, ih]

theorem leVal_le (w : Nat) : ∀ n, n < 256 ^ w → leVal (le n w) = n := by
  induction w with
  | zero => intro n h; simp at h; simp [le, leVal, h]
  | succ w ih =>
    intro n h
    have h2 : n / 256 < 256 ^ w := by
      rw [Nat.pow_succ] at h
      exact Nat.div_lt_of_lt_mul (by rw [Nat.mul_comm]; exact h)
    simp only [le, leVal, ih _ h2]
    omega

theorem rdN_app (a r : Bytes) : rdN a.length (a ++ r) = some (a, r) := by
  simp [rdN]

theorem rdLe_le (w n : Nat) (r : Bytes) (h : n < 256 ^ w) : rdLe w (le n w ++ r) = some (n, r) := by
  simp [rdLe, rdN, length_le, leVal_le w n h]

theorem rdStr_enc (s r : Bytes) (h : s.length < 65536) : rdStr (encStr s ++ r) = some (s, r) := by
  have h2 : s.length < 256 ^ 2 := h
  simp [rdStr, encStr, rdLe_le 2 s.length (s ++ r) h2, rdN_app]

theorem rdMany_flatMap {α : Type} (rd : Bytes → Option (α × Bytes)) (enc : α → Bytes) (xs : List α)
    (h : ∀ x ∈ xs, ∀ r, rd (enc x ++ r) = some (x, r)) (r : Bytes) :
    rdMany rd xs.length (xs.flatMap enc ++ r) = some (xs, r) := by
  induction xs with
  | nil => rfl
  | cons x xs ih =>
    have hx := h x (by simp) (xs.flatMap enc ++ r)
    have ih' := ih (fun y hy => h y (by simp [hy]))
    simp [rdMany, hx, ih']

/-- The field `x` of a record `a ++ x ++ r`, read at its offset. -/
theorem field_at (a x r : Bytes) {n w : Nat} (ha : a.length = n) (hx : x.length = w) :
    ((a ++ (x ++ r)).drop n).take w = x := by
  rw [List.drop_left' ha, List.take_left' hx]

end TurVerif.Catalog
