import TurVerif.Model.OMap
import TurVerif.Lemmas.CmpBytes
/-! Laws of the ordered-map specification `TurVerif.OMap`. Every scan passes over the keys below the
probe and is decided by what comes next, so each law is read off the cut of the list at the probe
(`C30.cut`, `C30.cut_sorted`). -/
namespace TurVerif.OMap
open TurVerif.Simd (cmpBytes)
open TurVerif.C30 (cmp_eq_iff cmp_gt_iff cmp_lt_trans)

def ELt (a b : Entry) : Prop := cmpBytes a.1 b.1 = .lt
def Sorted (m : List Entry) : Prop := m.Pairwise ELt

/-! ### the scans at a cut `A ++ B` of the list, every key of `A` below the probe

Each operation passes over `A`; what it does then is decided by the head of `B`: a greater key
(or no key) stops it, the probed key is the hit. -/

theorem lookup_append_right {A B : List Entry} {k : List Nat}
    (h : ∀ e ∈ A, cmpBytes e.1 k = .lt) : lookup (A ++ B) k = lookup B k := by
  induction A with
  | nil => rfl
  | cons x A ih =>
    have ⟨hx, hA⟩ := List.forall_mem_cons.mp h
    simp only [List.cons_append, lookup, hx, ih hA]

theorem insertNew_append_right {A B : List Entry} {k : List Nat} (v : List Nat)
    (h : ∀ e ∈ A, cmpBytes e.1 k = .lt) : insertNew (A ++ B) k v = A ++ insertNew B k v := by
  induction A with
  | nil => rfl
  | cons x A ih =>
    have ⟨hx, hA⟩ := List.forall_mem_cons.mp h
    simp only [List.cons_append, insertNew, hx, ih hA]

theorem erase_append_right {A B : List Entry} {k : List Nat}
    (h : ∀ e ∈ A, cmpBytes e.1 k = .lt) : erase (A ++ B) k = A ++ erase B k := by
  induction A with
  | nil => rfl
  | cons x A ih =>
    have ⟨hx, hA⟩ := List.forall_mem_cons.mp h
    simp only [List.cons_append, erase, hx, ih hA]

theorem replace_append_right {A B : List Entry} {k : List Nat} (v : List Nat)
    (h : ∀ e ∈ A, cmpBytes e.1 k = .lt) : replace (A ++ B) k v = A ++ replace B k v := by
  induction A with
  | nil => rfl
  | cons x A ih =>
    have ⟨hx, hA⟩ := List.forall_mem_cons.mp h
    simp only [List.cons_append, replace, hx, ih hA]

theorem fromKey_append_right {A B : List Entry} {k : List Nat}
    (h : ∀ e ∈ A, cmpBytes e.1 k = .lt) : fromKey (A ++ B) k = fromKey B k := by
  induction A with
  | nil => rfl
  | cons x A ih =>
    have ⟨hx, hA⟩ := List.forall_mem_cons.mp h
    simp only [List.cons_append, fromKey, hx, ih hA]

theorem lookup_absent {A B : List Entry} {k : List Nat} (h : ∀ e ∈ A, cmpBytes e.1 k = .lt)
    (hB : ∀ e ∈ B.head?, cmpBytes e.1 k = .gt) : lookup (A ++ B) k = none := by
  rw [lookup_append_right h]
  cases B with
  | nil => rfl
  | cons e B => simp only [lookup, hB e rfl]

theorem insertNew_absent {A B : List Entry} {k : List Nat} (v : List Nat)
    (h : ∀ e ∈ A, cmpBytes e.1 k = .lt) (hB : ∀ e ∈ B.head?, cmpBytes e.1 k = .gt) :
    insertNew (A ++ B) k v = A ++ (k, v) :: B := by
  rw [insertNew_append_right v h]
  cases B with
  | nil => rfl
  | cons e B => simp only [insertNew, hB e rfl]

theorem erase_absent {A B : List Entry} {k : List Nat} (h : ∀ e ∈ A, cmpBytes e.1 k = .lt)
    (hB : ∀ e ∈ B.head?, cmpBytes e.1 k = .gt) : erase (A ++ B) k = A ++ B := by
  rw [erase_append_right h]
  cases B with
  | nil => rfl
  | cons e B => simp only [erase, hB e rfl]

theorem lookup_present {A B : List Entry} {k v : List Nat} (h : ∀ e ∈ A, cmpBytes e.1 k = .lt) :
    lookup (A ++ (k, v) :: B) k = some v := by
  rw [lookup_append_right h]; simp only [lookup, C30.cmp_refl]

theorem erase_present {A B : List Entry} {k v : List Nat} (h : ∀ e ∈ A, cmpBytes e.1 k = .lt) :
    erase (A ++ (k, v) :: B) k = A ++ B := by
  rw [erase_append_right h]; simp only [erase, C30.cmp_refl]

theorem replace_present {A B : List Entry} {k v : List Nat} (v' : List Nat)
    (h : ∀ e ∈ A, cmpBytes e.1 k = .lt) : replace (A ++ (k, v) :: B) k v' = A ++ (k, v') :: B := by
  rw [replace_append_right v' h]; simp only [replace, C30.cmp_refl]

theorem insertNew_present {A B : List Entry} {k v : List Nat} (v' : List Nat)
    (h : ∀ e ∈ A, cmpBytes e.1 k = .lt) :
    insertNew (A ++ (k, v) :: B) k v' = A ++ (k, v) :: B := by
  rw [insertNew_append_right v' h]; simp only [insertNew, C30.cmp_refl]

theorem head_gt_of_lt {m : List Entry} {k : List Nat} (h : ∀ e ∈ m, cmpBytes k e.1 = .lt) :
    ∀ e ∈ m.head?, cmpBytes e.1 k = .gt :=
  fun e he => (cmp_gt_iff _ _).mpr (h e (List.mem_of_mem_head? he))

/-! ### the scans in front of a block `B` of greater keys -/
theorem lookup_append_left {A B : List Entry} {k : List Nat} (h : ∀ e ∈ B, cmpBytes k e.1 = .lt) :
    lookup (A ++ B) k = lookup A k := by
  induction A with
  | nil => exact lookup_absent (A := []) (by simp) (head_gt_of_lt h)
  | cons x A ih => obtain ⟨k', v'⟩ := x; simp only [List.cons_append, lookup, ih]

theorem insertNew_append_left {A B : List Entry} {k : List Nat} (v : List Nat) (h : ∀ e ∈ B, cmpBytes k e.1 = .lt) :
    insertNew (A ++ B) k v = insertNew A k v ++ B := by
  induction A with
  | nil => exact insertNew_absent (A := []) v (by simp) (head_gt_of_lt h)
  | cons x A ih =>
    obtain ⟨k', v'⟩ := x
    simp only [List.cons_append, insertNew]
    split <;> simp [ih]

theorem erase_append_left {A B : List Entry} {k : List Nat} (h : ∀ e ∈ B, cmpBytes k e.1 = .lt) :
    erase (A ++ B) k = erase A k ++ B := by
  induction A with
  | nil => exact erase_absent (A := []) (by simp) (head_gt_of_lt h)
  | cons x A ih =>
    obtain ⟨k', v'⟩ := x
    simp only [List.cons_append, erase]
    split <;> simp [ih]

theorem fromKey_append_left {A B : List Entry} {k : List Nat} (h : fromKey A k ≠ []) :
    fromKey (A ++ B) k = fromKey A k ++ B := by
  induction A with
  | nil => simp [fromKey] at h
  | cons x A ih =>
    obtain ⟨k', v'⟩ := x
    simp only [List.cons_append, fromKey] at h ⊢
    split
    · rename_i hc; simp only [hc] at h; exact ih h
    · rfl

/-- on a sorted list the early-exit scan finds exactly the members -/
theorem lookup_iff_mem {m : List Entry} (hs : Sorted m) (k v : List Nat) :
    lookup m k = some v ↔ (k, v) ∈ m := by
  obtain ⟨A, B, rfl, hA, hB | ⟨⟨_, v0⟩, B', rfl, rfl, hB'⟩⟩ := C30.cut_sorted (key := Prod.fst) hs k
  · rw [lookup_absent hA (head_gt_of_lt hB)]
    refine ⟨nofun, fun h => ?_⟩
    rcases List.mem_append.mp h with h | h
    · exact (C30.cmp_lt_ne (hA _ h) rfl).elim
    · exact (C30.cmp_lt_ne (hB _ h) rfl).elim
  · rw [lookup_present hA]
    refine ⟨fun h => by cases h; simp, fun h => ?_⟩
    rcases List.mem_append.mp h with h | h
    · exact (C30.cmp_lt_ne (hA _ h) rfl).elim
    · rcases List.mem_cons.mp h with h | h
      · cases h; rfl
      · exact (C30.cmp_lt_ne (hB' _ h) rfl).elim

theorem mem_insertNew {m : List Entry} {k v : List Nat} (hn : lookup m k = none) (e : Entry) :
    e ∈ insertNew m k v ↔ e = (k, v) ∨ e ∈ m := by
  obtain ⟨A, B, rfl, hA, hB | ⟨⟨_, v0⟩, B', rfl, rfl⟩⟩ := C30.cut Prod.fst k m
  · rw [insertNew_absent v hA hB]
    simp only [List.mem_append, List.mem_cons]
    exact or_left_comm
  · rw [lookup_present hA] at hn; cases hn

/-- nothing but the new entry is added (no hypothesis on `m`) -/
theorem mem_insertNew_sub {m : List Entry} {k v : List Nat} {e : Entry}
    (he : e ∈ insertNew m k v) : e = (k, v) ∨ e ∈ m := by
  obtain ⟨A, B, rfl, hA, hB | ⟨⟨_, v0⟩, B', rfl, rfl⟩⟩ := C30.cut Prod.fst k m
  · rw [insertNew_absent v hA hB] at he
    simp only [List.mem_append, List.mem_cons] at he ⊢
    exact or_left_comm.mp he
  · rw [insertNew_present v hA] at he; exact Or.inr he

theorem sorted_insertNew {m : List Entry} (hs : Sorted m) (k v : List Nat) :
    Sorted (insertNew m k v) := by
  obtain ⟨A, B, rfl, hA, hB | ⟨⟨_, v0⟩, B', rfl, rfl, _⟩⟩ := C30.cut_sorted (key := Prod.fst) hs k
  · rw [insertNew_absent v hA (head_gt_of_lt hB)]
    have h := List.pairwise_append.mp hs
    exact List.pairwise_append.mpr ⟨h.1, List.pairwise_cons.mpr ⟨hB, h.2.1⟩, fun a ha b hb =>
      (List.mem_cons.mp hb).elim (fun e => e ▸ hA a ha) (h.2.2 a ha b)⟩
  · rw [insertNew_present v hA]; exact hs

theorem erase_sublist (m : List Entry) (k : List Nat) : (erase m k).Sublist m := by
  induction m with
  | nil => simp [erase]
  | cons x m ih =>
    obtain ⟨k', v'⟩ := x
    simp only [erase]
    split
    · exact ih.cons_cons _
    · exact List.sublist_cons_self ..
    · exact List.Sublist.refl _

theorem sorted_erase {m : List Entry} (hs : Sorted m) (k : List Nat) : Sorted (erase m k) :=
  List.Pairwise.sublist (erase_sublist m k) hs

theorem mem_erase {m : List Entry} (hs : Sorted m) (k : List Nat) (e : Entry) :
    e ∈ erase m k ↔ e ∈ m ∧ e.1 ≠ k := by
  obtain ⟨A, B, rfl, hA, hB | ⟨⟨_, v0⟩, B', rfl, rfl, hB'⟩⟩ := C30.cut_sorted (key := Prod.fst) hs k
  · rw [erase_absent hA (head_gt_of_lt hB)]
    refine ⟨fun h => ⟨h, ?_⟩, And.left⟩
    rcases List.mem_append.mp h with h | h
    · exact C30.cmp_lt_ne (hA e h)
    · exact (C30.cmp_lt_ne (hB e h)).symm
  · rw [erase_present hA]
    simp only [List.mem_append, List.mem_cons]
    constructor
    · rintro (h | h)
      · exact ⟨.inl h, C30.cmp_lt_ne (hA e h)⟩
      · exact ⟨.inr (.inr h), (C30.cmp_lt_ne (hB' e h)).symm⟩
    · rintro ⟨h | rfl | h, hne⟩
      · exact .inl h
      · exact absurd rfl hne
      · exact .inr h

theorem keys_replace (m : List Entry) (k v : List Nat) :
    (replace m k v).map (·.1) = m.map (·.1) := by
  induction m with
  | nil => simp [replace]
  | cons x m ih =>
    obtain ⟨k', v'⟩ := x
    simp only [replace]
    split <;> simp [ih]

theorem sorted_iff_keys (m : List Entry) :
    Sorted m ↔ (m.map (·.1)).Pairwise (fun x y => cmpBytes x y = .lt) := by
  unfold Sorted ELt; rw [List.pairwise_map]

theorem sorted_replace {m : List Entry} (hs : Sorted m) (k v : List Nat) : Sorted (replace m k v) := by
  rw [sorted_iff_keys] at hs ⊢; rw [keys_replace]; exact hs

theorem lookup_replace_self {m : List Entry} {k : List Nat} {old : List Nat} (v : List Nat)
    (h : lookup m k = some old) : lookup (replace m k v) k = some v := by
  obtain ⟨A, B, rfl, hA, hB | ⟨⟨_, v0⟩, B', rfl, rfl⟩⟩ := C30.cut Prod.fst k m
  · rw [lookup_absent hA hB] at h; cases h
  · rw [replace_present v hA, lookup_present hA]

end TurVerif.OMap
