import TurVerif.Lemmas.PageLocksInv
/-!
C36, progress side: no deadlock (a non-quiescent reachable state always has an enabled step), every
enabled step decreases a work measure, hence every reachable state can be driven to quiescence.
Needs one more (simple) invariant, `EValid`; `Inv` does not give it because a thread at `cleanup`
has no stake.
-/
namespace TurVerif.PageLocks

/-- a thread at `cleanup p e` refers to an existing entry -/
def EValid (s : State) : Prop :=
  ∀ t ∈ s.threads, ∀ p e, t.pc = .cleanup p e → e < s.entries.length

theorem evalid_map {s : State} (m : List (Nat × Nat)) (h : EValid s) :
    EValid { s with map := m } := h

theorem evalid_init (fixed : Bool) (progs : List (List Op)) : EValid (init fixed progs) := by
  intro t ht p e hp
  simp only [init, List.mem_map] at ht
  obtain ⟨pr, _, rfl⟩ := ht
  cases hp

def pcRank : Pc → Nat
  | .idle => 0
  | .getOrCreate .. => 6
  | .acquire .. => 5
  | .waiting .. => 4
  | .held .. => 3
  | .release .. => 2
  | .cleanup .. => 1

/-- remaining work of one thread: 7 steps per remaining operation, plus the rest of the current one -/
def threadWork (t : Thread) : Nat := 7 * t.prog.length + pcRank t.pc

/-- remaining work of the system (an upper bound on the number of steps still possible) -/
def workLeft (s : State) : Nat := (s.threads.map threadWork).sum

theorem work_lt {t t' : Thread} (hp : t'.prog = t.prog) (hr : pcRank t'.pc < pcRank t.pc) :
    threadWork t' < threadWork t := by
  unfold threadWork; rw [hp]; exact Nat.add_lt_add_left hr _

/-- what `step_decreases_work` and `evalid_step` need of a step, from one case analysis -/
theorem step_effect {s s' : State} {tid : Nat} (hs : step s tid = some s') :
    ∃ t t', s.threads[tid]? = some t ∧ s'.threads = s.threads.set tid t' ∧
      threadWork t' < threadWork t ∧ s.entries.length ≤ s'.entries.length ∧
      ∀ p e, t'.pc = .cleanup p e → e < s.entries.length := by
  obtain ⟨⟨prog, pc⟩, ht, hk⟩ := step_cases hs
  have hmod : ∀ e f, s.entries.length ≤ (modEntry s e f).entries.length :=
    fun e f => Nat.le_of_eq (List.length_modify ..).symm
  refine ⟨⟨prog, pc⟩, ?_⟩
  cases hk with
  | start p w rest hpc hprog =>
    subst hpc
    refine ⟨_, ht, rfl, ?_, Nat.le_refl _, nofun⟩
    rw [threadWork, threadWork, hprog, List.length_cons, Nat.mul_succ]
    exact Nat.add_lt_add_left (Nat.lt_succ_self 6) _
  | hit p e w hpc hl =>
    subst hpc
    exact ⟨_, ht, rfl, work_lt rfl (Nat.lt_succ_self 5), hmod .., nofun⟩
  | miss p w hpc hl =>
    subst hpc
    exact ⟨_, ht, rfl, work_lt rfl (Nat.lt_succ_self 5),
      List.length_append ▸ Nat.le_add_right .., nofun⟩
  | grant p e w en hpc he hw hr =>
    refine ⟨_, ht, rfl, work_lt rfl ?_, hmod .., nofun⟩
    rcases hpc with rfl | rfl <;> simp only [pcRank, Nat.reduceLT]
  | park p e w hpc =>
    subst hpc
    exact ⟨_, ht, rfl, work_lt rfl (Nat.lt_succ_self 4), Nat.le_refl _, nofun⟩
  | unlock p e w hpc =>
    subst hpc
    exact ⟨_, ht, rfl, work_lt rfl (Nat.lt_succ_self 2), hmod .., nofun⟩
  | release p e en hpc he =>
    subst hpc
    refine ⟨_, ht, rfl, work_lt rfl ?_, hmod .., fun p' e' h => ?_⟩
    · dsimp only; split <;> simp only [pcRank, Nat.reduceLT]
    · dsimp only at h
      split at h <;> cases h
      exact (List.getElem?_eq_some_iff.mp he).1
  | remove p e en hpc he hc =>
    subst hpc
    exact ⟨_, ht, rfl, work_lt rfl (Nat.lt_succ_self 0), Nat.le_refl _, nofun⟩
  | keep p e en hpc he hc =>
    subst hpc
    exact ⟨_, ht, rfl, work_lt rfl (Nat.lt_succ_self 0), Nat.le_refl _, nofun⟩

theorem step_decreases_work {s s' : State} {tid : Nat} (hs : step s tid = some s') :
    workLeft s' < workLeft s := by
  obtain ⟨t, t', ht, hth, hlt, _⟩ := step_effect hs
  unfold workLeft
  rw [hth]
  exact Nat.lt_of_add_lt_add_right
    (sum_map_set threadWork t' ht ▸ Nat.add_lt_add_left hlt _)

theorem evalid_step {s s' : State} {tid : Nat} (h : EValid s) (hs : step s tid = some s') :
    EValid s' := by
  obtain ⟨t, t', _, hth, _, hlen, hnew⟩ := step_effect hs
  intro t0 ht0 p e hp
  rw [hth] at ht0
  refine Nat.lt_of_lt_of_le ?_ hlen
  rcases List.mem_or_eq_of_mem_set ht0 with ht0 | rfl
  · exact h t0 ht0 p e hp
  · exact hnew p e hp

theorem evalid_run {s : State} (h : EValid s) (sched : List Nat) : EValid (run s sched) :=
  Run.invariant step run (fun _ => rfl) (fun _ _ _ => rfl) evalid_step sched h

def Thread.done (t : Thread) : Prop := t.pc = .idle ∧ t.prog = []

theorem enabled_of_not_waiting {s : State} (h : Inv s) (hv : EValid s) {tid : Nat} {t : Thread}
    (ht : s.threads[tid]? = some t) (hnw : ∀ p e w, t.pc ≠ .waiting p e w) (hnd : ¬ t.done) :
    (step s tid).isSome = true := by
  have hent : ∀ {p e}, stakeOf t.pc = some (p, e) → s.entries[e]? ≠ none := fun hs hn => by
    obtain ⟨en, he⟩ := entry_of_stake h ht hs
    cases he.symm.trans hn
  -- the branches of `step` that return `none`: no such thread (1), program finished (2), entry
  -- missing (7, 18, 21), parked (12, 14, 16); all others return `some _`
  fun_cases step s tid
  case case1 hn => cases ht.symm.trans hn
  case case2 t' ht' hpc hpr => cases ht.symm.trans ht'; exact (hnd ⟨hpc, hpr⟩).elim
  case case7 t' ht' p e w hpc hn => cases ht.symm.trans ht'; exact (hent (by rw [hpc]; rfl) hn).elim
  case case12 t' ht' p e w hpc _ | case14 t' ht' p e _ _ _ hpc | case16 t' ht' p e w hpc _ _ _ _ =>
    cases ht.symm.trans ht'; exact (hnw _ _ _ hpc).elim
  case case18 t' ht' p e hpc hn => cases ht.symm.trans ht'; exact (hent (by rw [hpc]; rfl) hn).elim
  case case21 t' ht' p e hpc hn =>
    cases ht.symm.trans ht'
    rw [List.getElem?_eq_getElem (hv t (List.mem_of_getElem? ht) p e hpc)] at hn; cases hn
  all_goals rfl

theorem waiting_enabled {s : State} (h : Inv s) {tid : Nat} {t : Thread} {p e : Nat} {w : Bool}
    (ht : s.threads[tid]? = some t) (hpc : t.pc = .waiting p e w)
    (hW : ∀ t' ∈ s.threads, heldW e t'.pc = false)
    (hR : w = true → ∀ t' ∈ s.threads, heldR e t'.pc = false) :
    (step s tid).isSome = true := by
  obtain ⟨en, he⟩ := entry_of_stake h ht (p := p) (e := e) (by rw [hpc]; rfl)
  have o := h.en e en he
  have hw : en.writer = false := by
    have := o.wr
    rw [List.countP_eq_zero.mpr fun t' ht' => Bool.eq_false_iff.mp (hW t' ht')] at this
    cases hx : en.writer
    · rfl
    · rw [hx] at this; cases this
  have hr : w = true → en.readers = 0 := fun hw' => by
    rw [← o.rd]
    exact List.countP_eq_zero.mpr fun t' ht' => Bool.eq_false_iff.mp (hR hw' t' ht')
  unfold step
  simp only [ht, hpc, he]
  cases w
  · simp [hw]
  · simp [hw, hr rfl]

/-- NO DEADLOCK: a state satisfying the invariants in which some thread has not finished has an
enabled step -/
theorem progress_of_inv {s : State} (h : Inv s) (hv : EValid s) (hq : quiescent s = false) :
    ∃ tid, (step s tid).isSome = true := by
  obtain ⟨t, ht, hnd⟩ : ∃ t ∈ s.threads, ¬ t.done := by
    obtain ⟨t, ht, hp⟩ := List.all_eq_false.mp hq
    exact ⟨t, ht, fun hd => hp (by rw [hd.1, hd.2]; rfl)⟩
  by_cases hA : ∃ t ∈ s.threads, ¬ t.done ∧ ∀ p e w, t.pc ≠ .waiting p e w
  · obtain ⟨t, ht, hnd, hnw⟩ := hA
    obtain ⟨tid, ht⟩ := List.getElem?_of_mem ht
    exact ⟨tid, enabled_of_not_waiting h hv ht hnw hnd⟩
  · -- every thread is finished or parked, so nobody holds a lock and `t`'s request is granted
    have hall : ∀ t' ∈ s.threads, t'.done ∨ ∃ p e w, t'.pc = .waiting p e w := fun t' ht' =>
      Classical.byContradiction fun hc =>
        hA ⟨t', ht', fun hd => hc (.inl hd), fun p e w hp => hc (.inr ⟨p, e, w, hp⟩)⟩
    obtain ⟨p, e, w, hpc⟩ := (hall t ht).resolve_left hnd
    obtain ⟨tid, hti⟩ := List.getElem?_of_mem ht
    have hfree : ∀ t' ∈ s.threads, heldW e t'.pc = false ∧ heldR e t'.pc = false := by
      intro t' ht'
      rcases hall t' ht' with hd | ⟨_, _, _, hw⟩
      · rw [hd.1]; exact ⟨rfl, rfl⟩
      · rw [hw]; exact ⟨rfl, rfl⟩
    exact ⟨tid, waiting_enabled h hti hpc (fun t' ht' => (hfree t' ht').1)
      (fun _ t' ht' => (hfree t' ht').2)⟩

theorem run_append (s : State) (a b : List Nat) : run s (a ++ b) = run (run s a) b :=
  Run.append step run (fun _ => rfl) (fun _ _ _ => rfl) a b s

/-- the schedule built consists of enabled steps only, which the statement does not record -/
theorem completes_of_inv (n : Nat) {s : State} (h : Inv s) (hv : EValid s) (hn : workLeft s < n) :
    ∃ sched, quiescent (run s sched) = true ∧ sched.length ≤ workLeft s :=
  Run.completes step run (fun _ => rfl) (fun _ _ _ => rfl) (P := fun s => Inv s ∧ EValid s)
    (fun h hq => progress_of_inv h.1 h.2 hq)
    (fun h hs => ⟨⟨inv_step h.1 hs, evalid_step h.2 hs⟩, step_decreases_work hs⟩) n ⟨h, hv⟩ hn

end TurVerif.PageLocks
