import TurVerif.Lemmas.Freelist
/-! Invariant of the freelist model and its preservation by every step, for both variants of
    `allocate`; ghost-state histories (`Reach`).  Used by Props/C34.

    Every step is built from two moves on the trunk chain: a new head trunk is put in front
    (`core_cons`) or the head trunk is taken off (`core_drop`); a push or pop inside the head trunk
    is the second followed by the first. -/
namespace TurVerif.C34
open TurVerif.Freelist

/-- shape of the trunk chain `ts` hanging off `s.head`.  Only the head trunk is ever pushed to or
    popped from, and `release` opens a new one only when it is full: hence `full`.  `np` says nothing
    about the chain: the store has a page 0, which the pinned `allocate` reads when there is no chain. -/
structure Core (s : St) (ts : List Nat) : Prop where
  chain : Chain s s.head ts
  nodup : (items s ts).Nodup
  cnt : ∀ t ∈ ts.head?, (s.page t).count ≤ TRUNK_MAX
  full : ∀ t ∈ ts.tail, (s.page t).count = TRUNK_MAX
  np : 0 < s.npages

section
variable {s s' : St} {t p f : Nat} {ts : List Nat} {v : Page}

theorem core_nil (hh : s.head = 0) (hn : 0 < s.npages) : Core s [] :=
  ⟨hh, List.nodup_nil, nofun, nofun, hn⟩

theorem Core.items_nil (hc : Core s ts) (hh : s.head = 0) :
    items s ts = [] := by
  have hts : ts = [] := Chain_head_zero (hh ▸ hc.chain)
  rw [hts]; rfl

theorem Core.head_lt (hc : Core s ts) (hh : s.head ≠ 0) :
    s.head < s.npages := by
  obtain ⟨ts', rfl⟩ := Chain_head_ne hc.chain hh
  exact hc.chain.2.2.1

theorem Core.frame (hc : Core s ts) (hh : s'.head = s.head)
    (hn : s'.npages = s.npages) (hp : ∀ t ∈ ts, s'.page t = s.page t) : Core s' ts :=
  ⟨hh ▸ Chain_congr hn hp hc.chain, items_congr hp ▸ hc.nodup,
    fun t ht => hp t (List.mem_of_mem_head? ht) ▸ hc.cnt t ht,
    fun t ht => hp t (List.mem_of_mem_tail ht) ▸ hc.full t ht, hn ▸ hc.np⟩

/-- client writes to a page outside the chain's items change nothing the freelist looks at -/
theorem core_setPage (v : Page) (hc : Core s ts)
    (hp : p ∉ items s ts) : Core (s.setPage p v) ts ∧ items (s.setPage p v) ts = items s ts :=
  have hfr : ∀ t ∈ ts, (s.setPage p v).page t = s.page t := fun t ht =>
    (page_setPage s p v t).trans (if_neg fun e : t = p => hp (e ▸ mem_items_of_mem ht))
  ⟨hc.frame rfl rfl hfr, items_congr hfr⟩

theorem core_drop (hc : Core s (t :: ts))
    (hh : s'.head = (s.page t).next) (hn : s'.npages = s.npages) (hp : ∀ q, s'.page q = s.page q) :
    Core s' ts ∧ items s' ts = items s ts := by
  have hi : items s' ts = items s ts := items_congr fun u _ => hp u
  have hfull : ∀ u ∈ ts, (s'.page u).count = TRUNK_MAX := fun u hu => hp u ▸ hc.full u hu
  refine ⟨⟨hh ▸ Chain_congr hn (fun u _ => hp u) hc.chain.2.2.2, hi ▸ ?_,
    fun u hu => Nat.le_of_eq (hfull u (List.mem_of_mem_head? hu)),
    fun u hu => hfull u (List.mem_of_mem_tail hu), hn ▸ hc.np⟩, hi⟩
  exact (List.nodup_cons.mp (List.nodup_append.mp hc.nodup).2.1).2

/-- page `t`, now holding the trunk `v` that points at the old head, becomes the head trunk
    (`initialize_trunk`, `create_new_trunk`) -/
theorem core_cons (hc : Core s ts) (ht0 : t ≠ 0) (htn : t < s.npages) (hnext : v.next = s.head)
    (hcnt : v.count ≤ TRUNK_MAX) (hfull : ∀ u ∈ ts.head?, (s.page u).count = TRUNK_MAX)
    (hnd : (ents v v.count ++ t :: items s ts).Nodup) :
    Core (putHead s t f v) (t :: ts) ∧
      items (putHead s t f v) (t :: ts) = ents v v.count ++ t :: items s ts := by
  have hfr : ∀ u ∈ ts, (putHead s t f v).page u = s.page u := fun u hu =>
    page_putHead_ne fun e =>
      (List.nodup_cons.mp (List.nodup_append.mp hnd).2.1).1 (e ▸ mem_items_of_mem hu)
  have hpt : (putHead s t f v).page t = v := page_putHead_self
  have hi : items (putHead s t f v) (t :: ts) = ents v v.count ++ t :: items s ts := by
    rw [items, hpt, items_congr hfr]
  refine ⟨⟨⟨rfl, ht0, htn, ?_⟩, hi ▸ hnd, ?_, ?_, hc.np⟩, hi⟩
  · rw [hpt, hnext]
    exact Chain_congr (s := s) (s' := putHead s t f v) rfl hfr hc.chain
  · intro u hu
    obtain rfl : t = u := Option.some.inj hu
    exact Nat.le_trans (Nat.le_of_eq (congrArg Page.count hpt)) hcnt
  · intro u hu
    rw [hfr u hu]
    cases ts with
    | nil => cases hu
    | cons a as =>
      rcases List.mem_cons.mp hu with rfl | h
      · exact hfull u rfl
      · exact hc.full u h

/-- rewriting the head trunk page, link kept, is `core_drop` followed by `core_cons` -/
theorem core_set_head (hc : Core s (t :: ts)) (hnext : v.next = (s.page t).next)
    (hcnt : v.count ≤ TRUNK_MAX) (hnd : (ents v v.count ++ t :: items s ts).Nodup) :
    Core (putHead s t f v) (t :: ts) ∧
      items (putHead s t f v) (t :: ts) = ents v v.count ++ t :: items s ts :=
  have hd := core_drop (s' := { s with head := (s.page t).next }) hc rfl rfl fun _ => rfl
  hd.2 ▸ core_cons hd.1 hc.chain.2.1 hc.chain.2.2.1 hnext hcnt
    (fun u hu => hc.full u (List.mem_of_mem_head? hu)) (hd.2 ▸ hnd)

theorem core_push (hc : Core s (t :: ts))
    (hlt : (s.page t).count < TRUNK_MAX) (hp : p ∉ items s (t :: ts)) :
    Core (push s p) (t :: ts) ∧ items (push s p) (t :: ts) = p :: items s (t :: ts) := by
  obtain rfl : s.head = t := hc.chain.1
  have h := core_set_head (f := s.freeCount + 1) (v := pushed (s.page s.head) p) hc rfl hlt
  rw [ents_push] at h
  exact h (List.nodup_cons.mpr ⟨hp, hc.nodup⟩)

theorem core_pop (hc : Core s (t :: ts))
    (hpos : 0 < (s.page t).count) :
    Core (pop s) (t :: ts) ∧ items s (t :: ts) = top s :: items (pop s) (t :: ts) := by
  obtain rfl : s.head = t := hc.chain.1
  have hi : items s (s.head :: ts) = top s :: _ :=
    congrArg (· ++ s.head :: items s ts) (ents_pop (s.page s.head) hpos)
  have h := core_set_head (f := s.freeCount - 1) (v := popped (s.page s.head)) hc rfl
    (Nat.le_trans (Nat.sub_le _ _) (hc.cnt _ rfl)) (List.nodup_cons.mp (hi ▸ hc.nodup)).2
  exact ⟨h.1, hi.trans (congrArg _ h.2.symm)⟩

/-- the two bounds on the counter are what the invariants of both variants of `allocate` need:
    equality is kept if it held, and a counter that covers the items still does -/
theorem core_release (hc : Core s ts)
    (hf : (items s ts).length ≤ s.freeCount) (hp0 : p ≠ 0) (hpn : p < s.npages)
    (hp : p ∉ items s ts) :
    ∃ ts', Core (release s p).1 ts' ∧ items (release s p).1 ts' = p :: items s ts ∧
      (release s p).1.page 0 = s.page 0 ∧ (items s ts).length + 1 ≤ (release s p).1.freeCount ∧
      (release s p).1.freeCount ≤ s.freeCount + 1 := by
  have hnd : (p :: items s ts).Nodup := List.nodup_cons.mpr ⟨hp, hc.nodup⟩
  by_cases hopen : s.head ≠ 0 → TRUNK_MAX ≤ (s.page s.head).count
  · rw [release_open hc.head_lt hopen hpn]
    -- the old head trunk, if there is one, is full
    have hfull : ∀ u ∈ ts.head?, (s.page u).count = TRUNK_MAX := by
      intro u hu
      cases ts with
      | nil => cases hu
      | cons a as =>
        obtain rfl : a = u := Option.some.inj hu
        obtain rfl : s.head = a := hc.chain.1
        exact Nat.le_antisymm (hc.cnt _ rfl) (hopen hc.chain.2.1)
    obtain ⟨hc', hi'⟩ := core_cons (f := if s.head = 0 then 1 else s.freeCount + 1) hc hp0 hpn
      (v := trunkInit (s.page p) s.head) rfl (Nat.zero_le _) hfull hnd
    refine ⟨_, hc', hi', page_putHead_ne (Ne.symm hp0), ?_⟩
    -- the new counter is `if s.head = 0 then 1 else s.freeCount + 1`; without a head there are no items
    show _ ≤ ite _ _ _ ∧ ite _ _ _ ≤ _
    split
    · rw [hc.items_nil ‹_›]
      exact ⟨Nat.le_refl 1, Nat.succ_le_succ (Nat.zero_le _)⟩
    · exact ⟨Nat.succ_le_succ hf, Nat.le_refl _⟩
  · obtain ⟨hh, hlt⟩ := Classical.not_imp.mp hopen
    obtain ⟨ts', rfl⟩ := Chain_head_ne hc.chain hh
    rw [release_push hh (hc.head_lt hh) (Nat.lt_of_not_le hlt)]
    obtain ⟨hc', hi'⟩ := core_push hc (Nat.lt_of_not_le hlt) hp
    exact ⟨_, hc', hi', page_putHead_ne (Ne.symm hh), Nat.succ_le_succ hf, Nat.le_refl _⟩

end

/-- pages released and not handed out since, after an `allocate` with result `r` -/
def freeAfter (g : List Nat) : Res → List Nat
  | .page p => g.erase p
  | _ => g

/-- pages handed out and not released since -/
def allocdAfter (a : List Nat) : Res → List Nat
  | .page p => p :: a
  | _ => a

/-- reachable (state, free ghost, allocated ghost) triples for a client that releases only
    pages it owns and writes only to pages it owns (restricted by `W`) -/
inductive Reach (alloc : St → St × Res) (W : Nat → Page → Prop) : St → List Nat → List Nat → Prop
  | init (n : Nat) (hn : 0 < n) : Reach alloc W (St.init n) [] []
  | release {s g a} (p : Nat) : Reach alloc W s g a → p ≠ 0 → p < s.npages → p ∉ g →
      Reach alloc W (release s p).1 (p :: g) (a.filter (· != p))
  | alloc {s g a} : Reach alloc W s g a →
      Reach alloc W (alloc s).1 (freeAfter g (alloc s).2) (allocdAfter a (alloc s).2)
  | write {s g a} (p : Nat) (v : Page) : Reach alloc W s g a → p ∉ g → W p v →
      Reach alloc W (clientWrite s p v) g a

/-- allocate until something other than a page comes back (at most `n` times) -/
def drain (alloc : St → St × Res) : Nat → St → List Nat
  | 0, _ => []
  | n + 1, s =>
    match (alloc s).2 with
    | .page p => p :: drain alloc n (alloc s).1
    | _ => []

/-- ghost bookkeeping alone: the free ghost has no duplicates and is disjoint from the allocated ghost -/
theorem ghost_disjoint {f W s g a} (h : Reach f W s g a) :
    g.Nodup ∧ ∀ x ∈ a, x ∉ g := by
  induction h with
  | init n hn => exact ⟨List.nodup_nil, nofun⟩
  | release p _ _ _ hpg ih =>
    refine ⟨List.nodup_cons.mpr ⟨hpg, ih.1⟩, fun x hx hm => ?_⟩
    obtain ⟨hxa, hxp⟩ := List.mem_filter.mp hx
    exact (List.mem_cons.mp hm).elim (bne_iff_ne.mp hxp) (ih.2 x hxa)
  | @alloc s g a _ ih =>
    cases (f s).2 with
    | page p =>
      refine ⟨ih.1.erase p, fun x hx hm => ?_⟩
      rcases List.mem_cons.mp hx with rfl | hx'
      · exact ((List.Nodup.mem_erase_iff ih.1).mp hm).1 rfl
      · exact ih.2 x hx' (List.mem_of_mem_erase hm)
    | _ => exact ih
  | write p v _ _ _ ih => exact ih

/-- pages a result hands to the client -/
def resPages : Res → List Nat
  | .page p => [p]
  | _ => []

/-! ### repaired `allocate`: the items are a stack, `release` pushes and `allocateFixed` pops -/

/-- invariant of the repaired code: the counter is the number of items -/
structure CoreFixed (s : St) (ts : List Nat) : Prop extends Core s ts where
  fc : s.freeCount = (items s ts).length

/-- a legal outcome `x` of one repaired `allocate` on a state with chain `ts`: the first item is
    handed out and the others stay; nothing is handed out only when the counter is 0 -/
def StepFixed (s : St) (ts : List Nat) (x : St × Res) : Prop :=
  ∃ ts', CoreFixed x.1 ts' ∧ items s ts = resPages x.2 ++ items x.1 ts' ∧
    (x.2 = .none ∧ s.freeCount = 0 ∨ ∃ p, x.2 = .page p)

theorem pred_eq_length_tail {l l' : List Nat} {p n : Nat} (hn : n = l.length) (hl : l = p :: l') :
    n - 1 = l'.length := by
  subst hn hl; rfl

theorem fixed_allocate {s : St} {ts : List Nat} (hc : CoreFixed s ts) :
    StepFixed s ts (allocateFixed s) := by
  by_cases hz : s.freeCount = 0 ∨ s.head = 0
  · rw [allocateFixed_none hz]
    refine ⟨ts, hc, rfl, .inl ⟨rfl, hz.elim id fun hh => ?_⟩⟩
    rw [hc.fc, hc.items_nil hh]; rfl
  · obtain ⟨hfc, hh⟩ := not_or.mp hz
    obtain ⟨ts', rfl⟩ := Chain_head_ne hc.chain hh
    have hn : s.head < s.npages := hc.chain.2.2.1
    by_cases hcz : (s.page s.head).count = 0
    · -- an emptied trunk page is itself handed out
      rw [allocateFixed_trunk hfc hh hn hcz]
      obtain ⟨hc', hi'⟩ := core_drop
        (s' := { s with head := (s.page s.head).next, freeCount := s.freeCount - 1 })
        hc.toCore rfl rfl fun _ => rfl
      have hi := hi' ▸ items_cons_empty (s := s) ts' hcz
      exact ⟨ts', ⟨hc', pred_eq_length_tail hc.fc hi⟩, hi, .inr ⟨_, rfl⟩⟩
    · have hpos := Nat.pos_of_ne_zero hcz
      rw [allocateFixed_pop hfc hh hn hpos (hc.cnt _ rfl)]
      obtain ⟨hc', hi'⟩ := core_pop hc.toCore hpos
      exact ⟨_, ⟨hc', pred_eq_length_tail hc.fc hi'⟩, hi', .inr ⟨_, rfl⟩⟩

def InvFixed (s : St) (g : List Nat) : Prop := ∃ ts, CoreFixed s ts ∧ (items s ts).Perm g

theorem perm_freeAfter {l g : List Nat} {r : Res} (h : (resPages r ++ l).Perm g) :
    l.Perm (freeAfter g r) := by
  cases r with
  | page p => exact (h.trans (List.perm_cons_erase (h.mem_iff.mp (.head _)))).cons_inv
  | _ => exact h

theorem fixed_reach {s g a} (h : Reach allocateFixed (fun _ _ => True) s g a) : InvFixed s g := by
  induction h with
  | init n hn => exact ⟨[], ⟨core_nil rfl hn, rfl⟩, .nil⟩
  | @release s g a p _ hp0 hpn hpg ih =>
    obtain ⟨ts, hc, hperm⟩ := ih
    obtain ⟨ts', hc', hi', -, hlo, hhi⟩ := core_release hc.toCore (Nat.le_of_eq hc.fc.symm)
      hp0 hpn fun hm => hpg (hperm.mem_iff.mp hm)
    refine ⟨ts', ⟨hc', ?_⟩, hi' ▸ hperm.cons p⟩
    rw [hi']
    exact Nat.le_antisymm (Nat.le_trans hhi (Nat.le_of_eq (congrArg (· + 1) hc.fc))) hlo
  | alloc _ ih =>
    obtain ⟨ts, hc, hperm⟩ := ih
    obtain ⟨ts', hc', hi', -⟩ := fixed_allocate hc
    exact ⟨ts', hc', perm_freeAfter (hi' ▸ hperm)⟩
  | @write s g a p v _ hpg _ ih =>
    unfold clientWrite
    split
    · exact ih
    · obtain ⟨ts, hc, hperm⟩ := ih
      obtain ⟨hc', hi'⟩ := core_setPage v hc.toCore fun hm => hpg (hperm.mem_iff.mp hm)
      exact ⟨ts, ⟨hc', hi' ▸ hc.fc⟩, hi' ▸ hperm⟩

/-! ### pinned `allocate`: an emptied trunk page leaves the chain without being handed out, and with
    `head = 0` and a non-zero counter page 0 is read as a trunk -/

/-- the client keeps the trunk-header bytes (16..24) of its page 0 zero -/
def Page0Clean (s : St) : Prop := (s.page 0).next = 0 ∧ (s.page 0).count = 0

theorem Page0Clean.of_page_eq {s s' : St} (h : Page0Clean s) (hp : s'.page 0 = s.page 0) :
    Page0Clean s' := by
  unfold Page0Clean; rwa [hp]

/-- write permission on the proved domain of the pinned code -/
def W0 (p : Nat) (v : Page) : Prop := p = 0 → v.next = 0 ∧ v.count = 0

section
variable {s s' : St} {t fuel : Nat} {ts : List Nat}

/-- invariant of the pinned code: trunk pages dropped from the chain stay counted, so the counter
    is only bounded below -/
structure CorePinned (s : St) (ts : List Nat) : Prop extends Core s ts where
  fc : (items s ts).length ≤ s.freeCount
  clean : Page0Clean s

/-- a legal outcome `x` of one pinned `allocate` on a state with chain `ts`: the items that remain,
    with the page handed out in front, are among the old ones in the old order (trunk pages may
    have gone), and exactly the page handed out has left the entries -/
def StepPinned (s : St) (ts : List Nat) (x : St × Res) : Prop :=
  ∃ ts', CorePinned x.1 ts' ∧ (resPages x.2 ++ items x.1 ts').Sublist (items s ts) ∧
    (x.2 = .none ∧ entryCount s ts = 0 ∨
      ∃ p, x.2 = .page p ∧ entryCount x.1 ts' + 1 = entryCount s ts)

theorem StepPinned.mono {s s₁ : St} {ts ts₁ : List Nat} {x : St × Res} (h : StepPinned s₁ ts₁ x)
    (hi : (items s₁ ts₁).Sublist (items s ts)) (he : entryCount s₁ ts₁ = entryCount s ts) :
    StepPinned s ts x :=
  let ⟨ts', hc, hs, hr⟩ := h
  ⟨ts', hc, hs.trans hi, he ▸ hr⟩

theorem pinned_skip (hc : CorePinned s (t :: ts))
    (hcz : (s.page t).count = 0) (hh : s'.head = (s.page t).next) (hn : s'.npages = s.npages)
    (hp : ∀ q, s'.page q = s.page q) (hf : s.freeCount ≤ s'.freeCount + 1) :
    CorePinned s' ts ∧ items s (t :: ts) = t :: items s' ts ∧
      entryCount s (t :: ts) = entryCount s' ts := by
  obtain ⟨hc', hi'⟩ := core_drop hc.toCore hh hn hp
  have hi : items s (t :: ts) = t :: items s' ts := hi' ▸ items_cons_empty ts hcz
  have hlen : (t :: items s' ts).length ≤ s.freeCount := hi ▸ hc.fc
  refine ⟨⟨hc', Nat.le_of_succ_le_succ (Nat.le_trans hlen hf), hc.clean.of_page_eq (hp 0)⟩, hi, ?_⟩
  rw [entryCount, hcz, Nat.zero_add]
  exact (entryCount_congr fun u _ => hp u).symm

/-- head trunk non-empty: one pop, followed by the head moving on if that emptied the trunk -/
theorem pinned_pop (hc : CorePinned s (t :: ts))
    (hpos : 0 < (s.page t).count) : StepPinned s (t :: ts) (allocAux (fuel + 1) s) := by
  obtain rfl : s.head = t := hc.chain.1
  obtain ⟨hc2, hi2⟩ := core_pop hc.toCore hpos
  have hlen : (top s :: items (pop s) (s.head :: ts)).length ≤ s.freeCount := hi2 ▸ hc.fc
  have hc2 : CorePinned (pop s) (s.head :: ts) := ⟨hc2, Nat.le_sub_one_of_lt hlen,
    hc.clean.of_page_eq (page_putHead_ne (Ne.symm hc.chain.2.1))⟩
  -- one item fewer on the same trunks is one entry fewer
  have he : entryCount (pop s) (s.head :: ts) + 1 = entryCount s (s.head :: ts) := by
    have h := length_items s (s.head :: ts)
    rw [hi2, List.length_cons, length_items (pop s)] at h
    exact Nat.add_right_cancel ((Nat.add_right_comm _ _ _).trans h)
  rw [allocAux_pop (Nat.ne_of_gt (Nat.lt_of_lt_of_le (Nat.succ_pos _) hlen)) hc.chain.2.2.1 hpos
    (hc.cnt _ rfl)]
  split
  · have hpg : (pop s).page s.head = popped (s.page s.head) := page_putHead_self
    obtain ⟨hc3, hi3, he3⟩ := pinned_skip (s' := { pop s with head := (s.page s.head).next })
      hc2 (congrArg Page.count hpg |>.trans ‹_›) (congrArg Page.next hpg).symm rfl (fun _ => rfl)
      (Nat.le_succ _)
    refine ⟨ts, hc3, ?_, .inr ⟨_, rfl, he3 ▸ he⟩⟩
    rw [hi2, hi3]
    exact .cons_cons _ (.cons _ (.refl _))
  · refine ⟨_, hc2, ?_, .inr ⟨_, rfl, he⟩⟩
    rw [hi2]
    exact .refl _

/-- under the invariant the pinned `allocate` recurses at most once (one empty head trunk is
    skipped and its successor is full), so fuel 2 is enough -/
theorem pinned_allocAux (hc : CorePinned s ts) (hfuel : 2 ≤ fuel) :
    StepPinned s ts (allocAux fuel s) := by
  obtain ⟨fuel, rfl⟩ := Nat.exists_eq_add_of_le' hfuel
  have hreset : CorePinned { s with head := 0, freeCount := 0 } [] :=
    ⟨core_nil rfl hc.np, Nat.le_refl 0, hc.clean⟩
  by_cases hfc : s.freeCount = 0
  · rw [allocAux_none hfc]
    have hl : (items s ts).length = 0 := Nat.le_zero.mp (hfc ▸ hc.fc)
    exact ⟨ts, hc, .refl _, .inl ⟨rfl, (Nat.add_eq_zero_iff.mp ((length_items s ts).symm.trans hl)).1⟩⟩
  · cases ts with
    | nil =>
      -- no chain: page 0 is read as a trunk, and is an empty last one
      have hh : s.head = 0 := hc.chain
      have h0 : (s.page s.head).next = 0 ∧ (s.page s.head).count = 0 := by
        rw [hh]; exact hc.clean
      rw [allocAux_reset hfc (hh ▸ hc.np) h0.2 h0.1]
      exact ⟨[], hreset, .refl _, .inl ⟨rfl, rfl⟩⟩
    | cons t ts' =>
      obtain rfl : s.head = t := hc.chain.1
      have hn : s.head < s.npages := hc.chain.2.2.1
      by_cases hcz : (s.page s.head).count = 0
      · by_cases hnz : (s.page s.head).next = 0
        · rw [allocAux_reset hfc hn hcz hnz]
          refine ⟨[], hreset, List.nil_sublist _, .inl ⟨rfl, ?_⟩⟩
          have hts : ts' = [] := Chain_head_zero (hnz ▸ hc.chain.2.2.2)
          rw [hts, entryCount, hcz]; rfl
        · -- the successor was full when this trunk was opened, so the pop goes through
          rw [allocAux_skip hfc hn hcz hnz]
          obtain ⟨hc1, hi1, he1⟩ := pinned_skip (s' := { s with head := (s.page s.head).next })
            hc hcz rfl rfl (fun _ => rfl) (Nat.le_succ _)
          obtain ⟨ts'', rfl⟩ := Chain_head_ne hc.chain.2.2.2 hnz
          have hpos : 0 < (s.page (s.page s.head).next).count := by
            rw [hc.full _ (.head _)]; decide
          refine (pinned_pop hc1 hpos).mono ?_ he1.symm
          rw [hi1]
          exact .cons _ (.refl _)
      · exact pinned_pop hc (Nat.pos_of_ne_zero hcz)

theorem pinned_allocate (hc : CorePinned s ts) : StepPinned s ts (allocate s) :=
  pinned_allocAux hc (Nat.succ_le_succ hc.np)

end

def InvPinned (s : St) (g : List Nat) : Prop := ∃ ts, CorePinned s ts ∧ ∀ x ∈ items s ts, x ∈ g

theorem pinned_reach {s g a} (h : Reach allocate W0 s g a) : InvPinned s g := by
  induction h with
  | init n hn => exact ⟨[], ⟨core_nil rfl hn, Nat.le_refl 0, rfl, rfl⟩, fun _ h => nomatch h⟩
  | @release s g a p _ hp0 hpn hpg ih =>
    obtain ⟨ts, hc, hsub⟩ := ih
    obtain ⟨ts', hc', hi', hpz, hlo, -⟩ :=
      core_release hc.toCore hc.fc hp0 hpn fun hm => hpg (hsub p hm)
    refine ⟨ts', ⟨hc', hi' ▸ hlo, hc.clean.of_page_eq hpz⟩, ?_⟩
    rw [hi']
    exact fun x hx => (List.mem_cons.mp hx).elim (· ▸ .head _) fun h => .tail _ (hsub x h)
  | @alloc s g a _ ih =>
    obtain ⟨ts, hc, hsub⟩ := ih
    obtain ⟨ts', hc', hs, -⟩ := pinned_allocate hc
    refine ⟨ts', hc', fun x hx => ?_⟩
    have hxg : x ∈ g := hsub x (hs.subset (List.mem_append_right _ hx))
    cases hr : (allocate s).2 with
    | page p =>
      -- the items have no duplicates, so the page handed out is not among those that remain
      rw [hr] at hs
      have hne : x ≠ p := fun e => (List.nodup_cons.mp (hs.nodup hc.nodup)).1 (e ▸ hx)
      exact (List.mem_erase_of_ne hne).mpr hxg
    | _ => exact hxg
  | @write s g a p v _ hpg hw ih =>
    unfold clientWrite
    split
    · exact ih
    · obtain ⟨ts, hc, hsub⟩ := ih
      obtain ⟨hc', hi'⟩ := core_setPage v hc.toCore fun hm => hpg (hsub p hm)
      refine ⟨ts, ⟨hc', hi' ▸ hc.fc, ?_⟩, hi' ▸ hsub⟩
      unfold Page0Clean
      rw [page_setPage]
      split
      · exact hw (‹0 = p›).symm
      · exact hc.clean

end TurVerif.C34
