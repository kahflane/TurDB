import TurVerif.Model.Sql
import TurVerif.Model.Like
/-!
Helper lemmas for C14 (LIKE): the engine's greedy single-backtrack matcher (`Model/Like.lean`,
M-code of `CompiledPredicate::like_match_impl`) terminates within `fuelFor`, and on texts without
a `%` byte it computes the declarative LIKE semantics.

* `likeSpecB`        byte-level copy of `Sql.likeSpec` (37 = '%', 95 = '_')
* `likeGo_spec`      one induction over the loop: the state invariant `Inv` and the potential `pot`
                     give termination for every text; on a `%`-free text every iteration keeps the
                     state value `StateVal` (what the state "still can match"), which is the answer
-/
namespace TurVerif.Like
open TurVerif.Sql (tails)

/-- byte-level copy of `TurVerif.Sql.likeSpec` (pattern first, text second) -/
def likeSpecB : List Nat → List Nat → Bool
  | [], s => s.isEmpty
  | c :: p, s =>
    if c = 37 then (tails s).any (fun s' => likeSpecB p s')
    else match s with
      | [] => false
      | x :: s' => (c = 95 || c = x) && likeSpecB p s'

theorem mem_tails {α : Type} (s s' : List α) : s' ∈ tails s ↔ ∃ k, s' = s.drop k := by
  induction s with
  | nil => simp [tails]
  | cons x xs ih =>
    simp only [tails, List.mem_cons, ih]
    constructor
    · rintro (h | ⟨k, h⟩)
      · exact ⟨0, by simp [h]⟩
      · exact ⟨k + 1, by simp [h]⟩
    · rintro ⟨k, h⟩
      cases k with
      | zero => left; simpa using h
      | succ k => right; exact ⟨k, by simpa using h⟩

theorem specB_pct (q u : List Nat) :
    likeSpecB (37 :: q) u = true ↔ ∃ k, likeSpecB q (u.drop k) = true := by
  simp only [likeSpecB, if_true, List.any_eq_true]
  constructor
  · rintro ⟨s', hm, hs⟩
    obtain ⟨k, rfl⟩ := (mem_tails u s').mp hm
    exact ⟨k, hs⟩
  · rintro ⟨k, hs⟩
    exact ⟨u.drop k, (mem_tails u _).mpr ⟨k, rfl⟩, hs⟩

theorem specB_pct_drop (q u : List Nat) (i : Nat) :
    likeSpecB (37 :: q) (u.drop i) = true ↔ ∃ k, i ≤ k ∧ likeSpecB q (u.drop k) = true := by
  rw [specB_pct]
  constructor
  · rintro ⟨k, h⟩
    rw [List.drop_drop] at h
    exact ⟨i + k, Nat.le_add_right i k, h⟩
  · rintro ⟨k, hk, h⟩
    obtain ⟨d, rfl⟩ := Nat.exists_eq_add_of_le hk
    exact ⟨d, by rw [List.drop_drop]; exact h⟩

theorem specB_lit (c x : Nat) (q u : List Nat) (hc : c ≠ 37) :
    likeSpecB (c :: q) (x :: u) = ((c = 95 || c = x) && likeSpecB q u) := by
  simp [likeSpecB, hc]

theorem specB_lit_nil (c : Nat) (q : List Nat) (hc : c ≠ 37) :
    likeSpecB (c :: q) [] = false := by
  simp [likeSpecB, hc]

/-- on the empty text only `%…%` matches (the engine's trailing `while` loop) -/
theorem specB_nil (q : List Nat) : likeSpecB q [] = q.all (· == pct) := by
  induction q with
  | nil => rfl
  | cons c q ih =>
    by_cases hc : c = 37
    · subst hc; simp [likeSpecB, tails, ih, pct]
    · simp [likeSpecB, hc, pct]

theorem drop_cons_getD (l : List Nat) (i : Nat) (h : i < l.length) :
    l.drop i = l.getD i 0 :: l.drop (i + 1) := by
  rw [List.drop_eq_getElem_cons h]
  simp [List.getD_eq_getElem?_getD, h]

theorem specB_step {t p : List Nat} {ti pi : Nat} (hti : ti < t.length) (hpi : pi < p.length)
    (hc : p.getD pi 0 ≠ 37) :
    likeSpecB (p.drop pi) (t.drop ti) = true ↔
      (p.getD pi 0 = und ∨ p.getD pi 0 = t.getD ti 0) ∧
        likeSpecB (p.drop (pi + 1)) (t.drop (ti + 1)) = true := by
  rw [drop_cons_getD t ti hti, drop_cons_getD p pi hpi, specB_lit _ _ _ _ hc]
  simp [und]

/-- a text without a `%` byte -/
def PctFree (t : List Nat) : Prop := ∀ b ∈ t, b ≠ 37

theorem ne_pct_of_match {t : List Nat} (ht : PctFree t) {i c : Nat} (hi : i < t.length)
    (hm : c = und ∨ c = t.getD i 0) : c ≠ 37 := by
  rcases hm with rfl | rfl
  · decide
  · rw [List.getD_eq_getElem?_getD, List.getElem?_eq_getElem hi]
    exact ht _ (List.getElem_mem hi)

/-- a match passes a `%`-free pattern segment `p[a .. a+n)` by consuming `n` text bytes -/
theorem specB_segment (p : List Nat) (n : Nat) : ∀ (a : Nat) (u : List Nat),
    (∀ j, a ≤ j → j < a + n → p.getD j 0 ≠ 37) → a + n ≤ p.length →
    likeSpecB (p.drop a) u = true → likeSpecB (p.drop (a + n)) (u.drop n) = true := by
  induction n with
  | zero => intro a u _ _ h; exact h
  | succ n ih =>
    intro a u hfree hlen h
    have ha : a < a + (n + 1) := Nat.lt_add_of_pos_right (Nat.succ_pos n)
    have e : a + 1 + n = a + (n + 1) := Nat.add_right_comm a 1 n
    have hc := hfree a (Nat.le_refl _) ha
    rw [drop_cons_getD p a (Nat.lt_of_lt_of_le ha hlen)] at h
    cases u with
    | nil => rw [specB_lit_nil _ _ hc] at h; cases h
    | cons x u =>
      rw [specB_lit _ _ _ _ hc, Bool.and_eq_true] at h
      exact e ▸ ih (a + 1) u (fun j h1 h2 => hfree j (Nat.le_of_succ_le h1) (e ▸ h2)) (e ▸ hlen) h.2

/-- state invariant (for every text and pattern): the pattern segment between the remembered `%`
and `pi` has matched, byte by byte, the text consumed since the backtrack point -/
structure Inv (t p : List Nat) (ti pi : Nat) (star : Option Nat) (starTi : Nat) : Prop where
  ti_le : ti ≤ t.length
  pi_le : pi ≤ p.length
  starTi_le : starTi ≤ ti
  seg : ∀ sp, star = some sp → sp < pi ∧ ti + (sp + 1) = starTi + pi ∧
    ∀ k, sp + 1 + k < pi →
      p.getD (sp + 1 + k) 0 = und ∨ p.getD (sp + 1 + k) 0 = t.getD (starTi + k) 0

/-- potential: lexicographic (distance of the backtrack point to the end, remaining text +
remaining pattern), flattened with weight `|t| + |p| + 1`; every iteration decreases it -/
def pot (t p : List Nat) (ti pi starTi : Nat) : Nat :=
  (t.length + p.length + 1) * (t.length - starTi) + (t.length - ti) + (p.length - pi) + 1

/-! Every iteration decreases the potential.  A matched byte lowers the two plain terms; a `%`
that becomes the backtrack point lowers `|p| − pi` and does not let the weighted term grow; a
backtrack drops the weighted term by `|t| + |p| + 1`, more than the rest can grow. -/

theorem pot_match {t p : List Nat} {ti pi : Nat} (starTi : Nat) (h1 : ti < t.length)
    (h2 : pi < p.length) : pot t p (ti + 1) (pi + 1) starTi < pot t p ti pi starTi :=
  Nat.add_lt_add_right (Nat.add_lt_add (Nat.add_lt_add_left (Nat.sub_succ_lt_self _ _ h1) _)
    (Nat.sub_succ_lt_self _ _ h2)) 1

theorem pot_star {t p : List Nat} {ti pi starTi : Nat} (h1 : starTi ≤ ti) (h2 : pi < p.length) :
    pot t p ti (pi + 1) ti < pot t p ti pi starTi :=
  Nat.add_lt_add_right (Nat.add_lt_add_of_le_of_lt (Nat.add_le_add_right
    (Nat.mul_le_mul_left _ (Nat.sub_le_sub_left h1 t.length)) _) (Nat.sub_succ_lt_self _ _ h2)) 1

theorem pot_back {t p : List Nat} (ti pi sp : Nat) {starTi : Nat} (h : starTi < t.length) :
    pot t p (starTi + 1) (sp + 1) (starTi + 1) < pot t p ti pi starTi := by
  have e : t.length - starTi = t.length - (starTi + 1) + 1 := by omega
  have := Nat.sub_le t.length (starTi + 1)
  have := Nat.sub_le p.length (sp + 1)
  unfold pot
  rw [e, Nat.mul_succ]
  -- with the two differences named, `omega` need not split on them
  generalize t.length - (starTi + 1) = x at *
  generalize p.length - (sp + 1) = y at *
  omega

theorem fuelFor_ge_pot (t p : List Nat) : pot t p 0 0 0 ≤ fuelFor t p := by
  have : (t.length + p.length + 1) * (t.length + 1) ≤ (t.length + p.length + 2) * (t.length + 2) :=
    Nat.mul_le_mul (Nat.le_succ _) (Nat.le_succ _)
  rw [Nat.mul_succ] at this
  unfold pot fuelFor
  rw [Nat.sub_zero, Nat.mul_comm (t.length + 2)]
  omega

/-- what the remembered `%` can still deliver: the pattern after it matches at a later position -/
def StarVal (t p : List Nat) : Option Nat → Nat → Prop
  | some sp, starTi => ∃ k, starTi + 1 ≤ k ∧ likeSpecB (p.drop (sp + 1)) (t.drop k) = true
  | none, _ => False

/-- value of a loop state: the answer the loop is going to give from here -/
def StateVal (t p : List Nat) (ti pi : Nat) (star : Option Nat) (starTi : Nat) : Prop :=
  likeSpecB (p.drop pi) (t.drop ti) = true ∨ StarVal t p star starTi

theorem exists_ge_iff (P : Nat → Prop) (s : Nat) :
    (∃ k, s ≤ k ∧ P k) ↔ P s ∨ ∃ k, s + 1 ≤ k ∧ P k := by
  constructor
  · rintro ⟨k, hk, h⟩
    by_cases e : k = s
    · exact Or.inl (e ▸ h)
    · exact Or.inr ⟨k, Nat.lt_of_le_of_ne hk (Ne.symm e), h⟩
  · rintro (h | ⟨k, hk, h⟩)
    · exact ⟨s, Nat.le_refl _, h⟩
    · exact ⟨k, Nat.le_of_succ_le hk, h⟩

/-- greedy dominance: on a `%`-free text the matched segment is `%`-free, so whatever the
remembered `%` can deliver passes through the current pattern position at a later text position -/
theorem star_dom {t p : List Nat} {ti pi starTi : Nat} {star : Option Nat}
    (ht : PctFree t) (hI : Inv t p ti pi star starTi) (hS : StarVal t p star starTi) :
    ∃ j, ti + 1 ≤ j ∧ likeSpecB (p.drop pi) (t.drop j) = true := by
  cases star with
  | none => exact hS.elim
  | some sp =>
  obtain ⟨k, hk, hm⟩ := hS
  obtain ⟨h4, h6, h7⟩ := hI.seg sp rfl
  obtain ⟨n, rfl⟩ := Nat.exists_eq_add_of_le h4
  have hfree : ∀ j, sp + 1 ≤ j → j < sp + 1 + n → p.getD j 0 ≠ 37 := by
    intro j j1 j2
    obtain ⟨i, rfl⟩ := Nat.exists_eq_add_of_le j1
    exact ne_pct_of_match ht (by have := hI.ti_le; omega) (h7 i j2)
  have := specB_segment p n (sp + 1) (t.drop k) hfree hI.pi_le hm
  rw [List.drop_drop] at this
  exact ⟨k + n, by omega, this⟩

theorem specB_mismatch {t p : List Nat} {ti pi : Nat} (hti : ti < t.length)
    (hm : ¬ (pi < p.length ∧ (p.getD pi 0 = und ∨ p.getD pi 0 = t.getD ti 0)))
    (hs : ¬ (pi < p.length ∧ p.getD pi 0 = pct)) :
    likeSpecB (p.drop pi) (t.drop ti) = false := by
  rw [Bool.eq_false_iff]
  intro h
  by_cases hpi : pi < p.length
  · exact hm ⟨hpi, ((specB_step hti hpi fun e => hs ⟨hpi, e⟩).mp h).1⟩
  · rw [List.drop_eq_nil_of_le (Nat.le_of_not_lt hpi), drop_cons_getD t ti hti] at h
    cases h

section steps
variable {t p : List Nat} {ti pi starTi : Nat} {star : Option Nat}

theorem Inv_match (hI : Inv t p ti pi star starTi) (hti : ti < t.length) (hpi : pi < p.length)
    (hm : p.getD pi 0 = und ∨ p.getD pi 0 = t.getD ti 0) :
    Inv t p (ti + 1) (pi + 1) star starTi := by
  refine ⟨hti, hpi, Nat.le_succ_of_le hI.starTi_le, fun sp hsp => ?_⟩
  obtain ⟨a, c, d⟩ := hI.seg sp hsp
  refine ⟨Nat.lt_succ_of_lt a, (Nat.add_right_comm ti 1 (sp + 1)).trans (congrArg (· + 1) c),
    fun k hk => ?_⟩
  by_cases e : sp + 1 + k = pi
  · rw [e, show starTi + k = ti by omega]
    exact hm
  · exact d k (Nat.lt_of_le_of_ne (Nat.le_of_lt_succ hk) e)

theorem stateVal_match (ht : PctFree t) (hti : ti < t.length) (hpi : pi < p.length)
    (hm : p.getD pi 0 = und ∨ p.getD pi 0 = t.getD ti 0) :
    StateVal t p (ti + 1) (pi + 1) star starTi ↔ StateVal t p ti pi star starTi := by
  unfold StateVal
  rw [specB_step hti hpi (ne_pct_of_match ht hti hm), and_iff_right hm]

theorem Inv_star (hI : Inv t p ti pi star starTi) (hpi : pi < p.length) :
    Inv t p ti (pi + 1) (some pi) ti := by
  refine ⟨hI.ti_le, hpi, Nat.le_refl _, fun sp hsp => ?_⟩
  cases hsp
  exact ⟨Nat.lt_succ_self _, rfl, fun k hk => absurd hk (Nat.not_lt.mpr (Nat.le_add_right _ k))⟩

/-- `%` becomes the backtrack point and is tried with the empty expansion first; what an older
backtrack point could still deliver, this one delivers as well (`star_dom`) -/
theorem stateVal_star (ht : PctFree t) (hI : Inv t p ti pi star starTi) (hpi : pi < p.length)
    (hs : p.getD pi 0 = pct) :
    StateVal t p ti (pi + 1) (some pi) ti ↔ StateVal t p ti pi star starTi := by
  have hpat : p.drop pi = 37 :: p.drop (pi + 1) := by
    rw [drop_cons_getD p pi hpi, hs]; rfl
  unfold StateVal
  rw [StarVal, ← exists_ge_iff (fun k => likeSpecB (p.drop (pi + 1)) (t.drop k) = true),
    ← specB_pct_drop, ← hpat]
  refine ⟨Or.inl, fun h => h.elim id fun hS => ?_⟩
  obtain ⟨j, hj, hmj⟩ := star_dom ht hI hS
  rw [hpat, specB_pct_drop] at hmj ⊢
  obtain ⟨k, hk, hmk⟩ := hmj
  exact ⟨k, Nat.le_trans (Nat.le_of_succ_le hj) hk, hmk⟩

/-- mismatch with a backtrack point: its `%` swallows one more byte -/
theorem Inv_back {sp : Nat} (hI : Inv t p ti pi (some sp) starTi) (hti : ti < t.length) :
    Inv t p (starTi + 1) (sp + 1) (some sp) (starTi + 1) := by
  refine ⟨Nat.lt_of_le_of_lt hI.starTi_le hti, Nat.le_trans (hI.seg sp rfl).1 hI.pi_le, Nat.le_refl _,
    fun sp' hsp => ?_⟩
  cases hsp
  exact ⟨Nat.lt_succ_self _, rfl, fun k hk => absurd hk (Nat.not_lt.mpr (Nat.le_add_right _ k))⟩

theorem stateVal_back {sp : Nat} (hfalse : likeSpecB (p.drop pi) (t.drop ti) = false) :
    StateVal t p (starTi + 1) (sp + 1) (some sp) (starTi + 1) ↔ StateVal t p ti pi (some sp) starTi := by
  unfold StateVal
  rw [hfalse, StarVal, StarVal,
    ← exists_ge_iff (fun k => likeSpecB (p.drop (sp + 1)) (t.drop k) = true)]
  exact ⟨Or.inr, fun h => h.elim nofun id⟩

theorem stateVal_fail (hfalse : likeSpecB (p.drop pi) (t.drop ti) = false) :
    ¬ StateVal t p ti pi none starTi := by
  unfold StateVal
  rw [hfalse]
  rintro (h | h) <;> cases h

/-- text exhausted: only `%…%` may remain (also for what a backtrack point could deliver) -/
theorem stateVal_end (ht : PctFree t) (hI : Inv t p ti pi star starTi) (hti : ¬ ti < t.length) :
    StateVal t p ti pi star starTi ↔ (p.drop pi).all (· == pct) = true := by
  rw [← specB_nil]
  unfold StateVal
  rw [List.drop_eq_nil_of_le (Nat.le_of_not_lt hti)]
  refine ⟨fun h => h.elim id fun hS => ?_, Or.inl⟩
  obtain ⟨j, hj, hmj⟩ := star_dom ht hI hS
  rwa [List.drop_eq_nil_of_le (Nat.le_trans (Nat.le_of_not_lt hti) (Nat.le_of_succ_le hj))] at hmj

end steps

/-- the loop ends within `pot` iterations, for every text; on a `%`-free text its answer is the
value of the state it started from -/
theorem likeGo_spec (t p : List Nat) (fuel ti pi : Nat) (star : Option Nat) (starTi : Nat)
    (hI : Inv t p ti pi star starTi) (hp : pot t p ti pi starTi ≤ fuel) :
    ∃ b, likeGo t p fuel ti pi star starTi = some b ∧
      (PctFree t → (b = true ↔ StateVal t p ti pi star starTi)) := by
  fun_induction likeGo t p fuel ti pi star starTi with
  | case1 => exact absurd hp (Nat.not_succ_le_zero _)
  | case2 fuel ti pi star starTi hti hm ih =>
    obtain ⟨b, hb, hv⟩ := ih (Inv_match hI hti hm.1 hm.2)
      (Nat.le_of_lt_succ (Nat.lt_of_lt_of_le (pot_match _ hti hm.1) hp))
    exact ⟨b, hb, fun ht => (hv ht).trans (stateVal_match ht hti hm.1 hm.2)⟩
  | case3 fuel ti pi star starTi hti hm hs ih =>
    obtain ⟨b, hb, hv⟩ := ih (Inv_star hI hs.1)
      (Nat.le_of_lt_succ (Nat.lt_of_lt_of_le (pot_star hI.starTi_le hs.1) hp))
    exact ⟨b, hb, fun ht => (hv ht).trans (stateVal_star ht hI hs.1 hs.2)⟩
  | case4 fuel ti pi starTi hti hm hs sp ih =>
    obtain ⟨b, hb, hv⟩ := ih (Inv_back hI hti) (Nat.le_of_lt_succ
      (Nat.lt_of_lt_of_le (pot_back ti pi sp (Nat.lt_of_le_of_lt hI.starTi_le hti)) hp))
    exact ⟨b, hb, fun ht => (hv ht).trans (stateVal_back (specB_mismatch hti hm hs))⟩
  | case5 fuel ti pi starTi hti hm hs =>
    exact ⟨false, rfl, fun _ =>
      ⟨nofun, fun hv => absurd hv (stateVal_fail (specB_mismatch hti hm hs))⟩⟩
  | case6 fuel ti pi star starTi hti => exact ⟨_, rfl, fun ht => (stateVal_end ht hI hti).symm⟩

theorem likeImpl_spec (t p : List Nat) :
    ∃ b, likeImpl t p = some b ∧ (PctFree t → (b = true ↔ likeSpecB p t = true)) := by
  obtain ⟨b, hb, hv⟩ := likeGo_spec t p _ 0 0 none 0
    ⟨Nat.zero_le _, Nat.zero_le _, Nat.le_refl _, nofun⟩ (fuelFor_ge_pot t p)
  refine ⟨b, hb, fun ht => (hv ht).trans ?_⟩
  exact ⟨fun h => h.elim id False.elim, Or.inl⟩

end TurVerif.Like
