import TurVerif.Model.SqlDb
/-
M-spec: maintenance and configuration operations on the relational reference model
(`TurVerif.SqlDb`).  This is the *specification* C04 and C42 refer to:

* a checkpoint (explicit through the API, `PRAGMA wal_checkpoint`, automatic) and a configuration
  statement (`PRAGMA wal | synchronous | wal_autoflush | wal_checkpoint_threshold`) are the
  identity on the logical database, and return nothing a query could see;
* close + reopen is the identity when no transaction is open; with an open transaction it is a
  ROLLBACK (`Database::close` calls `abort_active_transaction`).

Imports only the core-only reference model.
-/
namespace TurVerif.SqlMaint
open TurVerif.SqlDb

inductive Maint where
  /-- `Database::checkpoint()` -/
  | checkpoint
  /-- `PRAGMA wal_checkpoint` / `Database::checkpoint_wal()` -/
  | pragmaCheckpoint
  /-- a checkpoint triggered by the frame-count threshold at COMMIT -/
  | autoCheckpoint
  /-- any configuration PRAGMA (name, value) -/
  | config (name value : String)
  /-- `Database::close()` (or dropping the handle) followed by `Database::open` -/
  | reopen
  deriving Repr, DecidableEq

inductive Item where
  | stmt (s : Stmt)
  | maint (m : Maint)
  deriving Repr

def Item.isReopen : Item → Bool
  | .maint .reopen => true
  | _ => false

/-- the logical effect of a maintenance operation -/
def maintStep (s : DbState) : Maint → DbState
  | .reopen =>
    match s.txn.getLast? with
    | none => s
    | some (_, snap) => { tables := snap, txn := [] }
  | _ => s

/-- run a history with maintenance operations; only statements produce results -/
def runItems (s : DbState) : List Item → DbState × List Res
  | [] => (s, [])
  | .stmt st :: rest =>
    let (s1, r) := step s st
    let (s2, rs) := runItems s1 rest
    (s2, r :: rs)
  | .maint m :: rest => runItems (maintStep s m) rest

/-- the history with the maintenance operations erased -/
def stmtsOf : List Item → List Stmt
  | [] => []
  | .stmt st :: rest => st :: stmtsOf rest
  | .maint _ :: rest => stmtsOf rest

/-- the history in which a reopen is replaced by what it means logically: a ROLLBACK if a
transaction is open (the flag is threaded through the statements), nothing otherwise -/
def txnOpen (s : DbState) : Bool := !s.txn.isEmpty

end TurVerif.SqlMaint
