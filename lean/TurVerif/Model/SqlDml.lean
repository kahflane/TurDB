import TurVerif.Model.SqlDb
/-
M-code: the storage-level mechanics of the engine's DML paths that the properties C05/C06 are
about, transcribed from
  src/database/dml/insert.rs  execute_insert_internal   (per-row validate-then-write loop; the
                                                          header row_count is written once, after
                                                          the loop, only when the loop completes)
  src/database/dml/delete.rs  execute_delete            (collect matching rows, overwrite each with
                                                          a tombstone, header row_count -= n,
                                                          saturating)
  src/database/database.rs    is_simple_count_star      (COUNT(*) answered from the header)
A table is a list of slots in key order (row keys are a monotonically increasing counter, so new
rows go to the end); a slot is live or a tombstone.  Scans (`visible`) skip tombstones.
Imports only the core-only reference model (for `Row`).
-/
namespace TurVerif.SqlDml
open TurVerif.Sql TurVerif.SqlDb

structure Slot where
  row : Row
  dead : Bool := false
  deriving Repr, Inhabited, DecidableEq

structure TStore where
  slots : List Slot := []
  /-- `TableFileHeader.row_count`: what `SELECT COUNT(*) FROM t` returns -/
  rowCount : Nat := 0
  deriving Repr, Inhabited, DecidableEq

/-- what a table scan returns: the live rows in key order -/
def visible (st : TStore) : List Row := (st.slots.filter (fun s => !s.dead)).map (·.row)

/-- the header-based COUNT(*) fast path -/
def countStar (st : TStore) : Nat := st.rowCount

def push (st : TStore) (r : Row) : TStore := { st with slots := st.slots ++ [{ row := r }] }

/-- The INSERT loop.  `ok vis r` is the per-row validation (NOT NULL, CHECK, unique-index lookups)
evaluated against what is stored at that moment – including the rows of the same statement that
were already written.  Row i failing returns `some i` immediately: rows 0..i-1 stay in the B-tree
and the header count is not touched.  When every row passes, the header count is raised by the
number of rows. -/
def insertLoop (ok : List Row → Row → Bool) (st : TStore) (rows : List Row) : TStore × Option Nat :=
  go st.rowCount st 0 rows
where
  go (hdr : Nat) (cur : TStore) (i : Nat) : List Row → TStore × Option Nat
    | [] => ({ cur with rowCount := hdr + i }, none)
    | r :: rest =>
      if ok (visible cur) r then go hdr (push cur r) (i + 1) rest
      else (cur, some i)

/-- DELETE (`execute_delete`): the statement walks the B-tree with a raw cursor and evaluates the
predicate on every record – it does NOT look at the tombstone flag.  Every slot (live or already
deleted) whose row satisfies `p` is selected, (re)written as a tombstone, counted in
`rows_affected`, and the header count is decreased by that number (saturating). -/
def deleteWhere (p : Row → Bool) (st : TStore) : TStore × Nat :=
  let n := (st.slots.filter (fun s => p s.row)).length
  ({ slots := st.slots.map (fun s => if p s.row then { s with dead := true } else s),
     rowCount := st.rowCount - n }, n)

/-- UPDATE (`execute_update`, multipass path): same raw walk; every slot whose row satisfies `p`
is rewritten in place with a *fresh live* record header (`wrap_record_for_update`), so a matching
tombstone comes back to life.  The header count is not touched. -/
def updateWhere (p : Row → Bool) (f : Row → Row) (st : TStore) : TStore × Nat :=
  let n := (st.slots.filter (fun s => p s.row)).length
  ({ st with slots := st.slots.map (fun s => if p s.row then { row := f s.row, dead := false } else s) }, n)

/-- TRUNCATE (`execute_truncate`): physically deletes every key, header count := 0; reports the
number of keys (tombstones included) -/
def truncate (st : TStore) : TStore × Nat := ({}, st.slots.length)

/-- the abstraction invariant the COUNT(*) fast path relies on -/
def countOk (st : TStore) : Prop := st.rowCount = (visible st).length

instance (st : TStore) : Decidable (countOk st) := inferInstanceAs (Decidable (_ = _))

/-! ### the statements of the engine over a store, driven by the spec's expression semantics

These glue the storage mechanics above to the statement forms (`TurVerif.SqlDb.Stmt`) so that the
driver can run the M-code in lock-step with the engine.  Expression evaluation, DEFAULT/AUTO_INCREMENT
filling and the per-row constraint predicates are shared with the spec. -/

/-- the row selection of UPDATE/DELETE as a Bool: the predicate evaluates to TRUE -/
def sel (whr : Option Expr) (r : Row) : Bool :=
  match optKeeps whr r with
  | .ok true => true
  | _ => false

/-- the post-image of one row (identity when an assignment fails to evaluate) -/
def upd (sets : List (Nat × Expr)) (r : Row) : Row :=
  match updateRow sets r with
  | .ok r' => r'
  | .error _ => r


mutual
/-- does the expression mention a column?  (`expr_contains_column_ref` of update.rs) -/
def hasCol : Expr → Bool
  | .lit _ => false
  | .col _ => true
  | .neg e => hasCol e
  | .not e => hasCol e
  | .bin _ a b => hasCol a || hasCol b
  | .isNull e _ => hasCol e
  | .inList e l _ => hasCol e || hasColList l
  | .between e lo hi _ => hasCol e || hasCol lo || hasCol hi
  | .like e p _ => hasCol e || hasCol p
  | .coalesce l => hasColList l
  | .caseWhen ws els => hasColCases ws || hasCol els
def hasColList : List Expr → Bool
  | [] => false
  | e :: es => hasCol e || hasColList es
def hasColCases : List (Expr × Expr) → Bool
  | [] => false
  | (c, v) :: rest => hasCol c || hasCol v || hasColCases rest
end

/-- `ConstraintValidator::apply_defaults`: EVERY NULL in a column that has a DEFAULT is replaced,
whether the column was omitted or an explicit NULL was given -/
def applyDefaults (t : TableSt) (r : Row) : Row :=
  (r.zip t.cols).map (fun (vc : Val × ColDef) => if vc.1.isNull && !vc.2.dflt.isNull then vc.2.dflt else vc.1)

/-- assignment evaluation order of `execute_update`: assignments without a column reference are
pre-computed and stored into the row first; the remaining ones are then all evaluated on that
partially updated row, and stored -/
def updE (sets : List (Nat × Expr)) (r : Row) : Except Err Row :=
  let consts := sets.filter (fun s => !hasCol s.2)
  let defer := sets.filter (fun s => hasCol s.2)
  match evalList r (consts.map (·.2)) with
  | .error e => .error e
  | .ok cv =>
    let r1 := ((consts.map (·.1)).zip cv).foldl (fun acc iv => setAt acc iv.1 iv.2) r
    match evalList r1 (defer.map (·.2)) with
    | .error e => .error e
    | .ok dv => .ok (((defer.map (·.1)).zip dv).foldl (fun acc iv => setAt acc iv.1 iv.2) r1)

/-- the engine's post-image of one row (identity when an assignment fails to evaluate) -/
def updM (sets : List (Nat × Expr)) (r : Row) : Row :=
  match updE sets r with
  | .ok r' => r'
  | .error _ => r

/-- NOT NULL and CHECK on one row -/
def rowLocalOk (t : TableSt) (r : Row) : Bool :=
  notNullOk t r && (match checkOk t r with | .ok b => b | .error _ => false)

/-- per-row validation of INSERT: row-local constraints, then one unique-index lookup per
unique key; the indexes hold the keys of the live rows (deleted rows' entries are removed) -/
def rowOk (t : TableSt) (vis : List Row) (r : Row) : Bool :=
  rowLocalOk t r &&
  (uniqueSets t).all (fun ix =>
    keyHasNull (keyOf r ix) || vis.all (fun r' => !(rowSame (keyOf r ix) (keyOf r' ix))))

inductive MRes where
  | ok (affected : Nat) (deadSelected : Nat)
  | err (row : Nat)
  | evalErr
  deriving Repr, Inhabited, DecidableEq

def deadSel (p : Row → Bool) (st : TStore) : Nat := (st.slots.filter (fun s => s.dead && p s.row)).length

/-- INSERT: expressions of all rows are evaluated first (an error there has no effect), then the
per-row loop runs -/
def mInsert (t : TableSt) (cols : List Nat) (rows : List (List Expr)) (st : TStore) : TStore × MRes :=
  match buildInsertRows t cols rows t.nextAuto with
  | .error _ => (st, .evalErr)
  | .ok (newRows0, _) =>
    let newRows := newRows0.map (applyDefaults t)
    match insertLoop (rowOk t) st newRows with
    | (st', none) => (st', .ok newRows.length 0)
    | (st', some k) => (st', .err k)

/-- the primary-key point path of `execute_delete` / `execute_update`: a WHERE clause of the exact
shape `pk = literal` (either side) is answered through the PK index.  The index holds the keys of
the live rows; when it has the key, only the record it points to is visited. -/
def pkPoint (t : TableSt) : Option Expr → Option (Nat × Val)
  | some (.bin .eq (.col i) (.lit v)) =>
    if ((t.cols[i]?).map (·.pk)).getD false && !v.isNull then some (i, v) else none
  | some (.bin .eq (.lit v) (.col i)) =>
    if ((t.cols[i]?).map (·.pk)).getD false && !v.isNull then some (i, v) else none
  | _ => none

/-- the slot the PK index points to -/
def pkSlot (t : TableSt) (whr : Option Expr) (st : TStore) : Option Nat :=
  match pkPoint t whr with
  | none => none
  | some (i, v) => st.slots.findIdx? (fun s => !s.dead && Val.same (s.row.getD i .null) v)

def deleteAt (k : Nat) (st : TStore) : TStore × Nat :=
  ({ slots := st.slots.modify k (fun s => { s with dead := true }), rowCount := st.rowCount - 1 }, 1)

def updateAt (k : Nat) (f : Row → Row) (st : TStore) : TStore × Nat :=
  ({ st with slots := st.slots.modify k (fun s => { row := f s.row, dead := false }) }, 1)

/-- tombstones the statement's row selection reaches -/
def deadReached (t : TableSt) (whr : Option Expr) (st : TStore) : Nat :=
  match pkSlot t whr st with
  | some _ => 0
  | none => deadSel (sel whr) st

def mDelete (t : TableSt) (whr : Option Expr) (st : TStore) : TStore × MRes :=
  match pkSlot t whr st with
  | some k => let r := deleteAt k st; (r.1, .ok r.2 0)
  | none =>
    let r := deleteWhere (sel whr) st
    (r.1, .ok r.2 (deadSel (sel whr) st))

/-- UPDATE (multipass path): pass 1 walks the tree, computes and validates (NOT NULL, CHECK) the
new image of every selected record; pass 2 looks up every new non-NULL value of a *modified*
unique column in its index and fails when the entry belongs to another record; only then are
records written.  A failure in pass 1 or 2 therefore has no effect. -/
def mUpdate (t : TableSt) (sets : List (Nat × Expr)) (whr : Option Expr) (st : TStore) : TStore × MRes :=
  let p := sel whr
  let point := pkSlot t whr st
  let selected : List (Slot × Nat) := match point with
    | some k => (st.slots.zipIdx).filter (fun (x : Slot × Nat) => x.2 == k)
    | none => (st.slots.zipIdx).filter (fun (x : Slot × Nat) => p x.1.row)
  if selected.any (fun x => match updE sets x.1.row with | .ok _ => false | .error _ => true) then
    (st, .evalErr)
  else if selected.any (fun x => !(rowLocalOk t (updM sets x.1.row))) then (st, .err 0)
  else
    let modified := sets.map (·.1)
    let ucols := (uniqueSets t).filter (fun ix => match ix with | [c] => modified.contains c | _ => false)
    let clash := ucols.any (fun ix => selected.any (fun x =>
      let k := keyOf (updM sets x.1.row) ix
      !keyHasNull k && (st.slots.zipIdx).any (fun y => y.2 != x.2 && !y.1.dead && rowSame k (keyOf y.1.row ix))))
    if clash then (st, .err 1)
    else
      match point with
      | some k => let r := updateAt k (updM sets) st; (r.1, .ok r.2 0)
      | none =>
        let r := updateWhere p (updM sets) st
        (r.1, .ok r.2 (deadSel p st))

def mTruncate (st : TStore) : TStore × MRes :=
  let r := truncate st
  (r.1, .ok r.2 (st.slots.filter (·.dead)).length)

end TurVerif.SqlDml
