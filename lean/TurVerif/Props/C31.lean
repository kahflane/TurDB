import TurVerif.Model.Record
import TurVerif.Lemmas.Record
/-!
C31  Row records round-trip through the record format; reset = fresh.
Theorems about the M-code model `TurVerif.Record`.

The lemmas about the model are in Lemmas/Record; the statements here about `setRow … (new s)` are
instances of the getters proved there for any well-shaped builder state (`get_build`).
-/
namespace TurVerif.C31
open TurVerif.Record

theorem shape_new (s : List ColKind) : Shape s (new s) := by
  induction s with
  | nil => simp [new, Shape]
  | cons k ks ih => cases k <;> simp [new, Shape, newCell] <;> exact ih

theorem shape_setNull {s : List ColKind} {st : List Cell} (h : Shape s st) (i : Nat) :
    Shape s (setNull st i) := shape_modify h i _ (fun _ => Or.inl rfl)

theorem sumTo_le (vs : List (List Nat)) (j : Nat) : sumTo vs j ≤ sumTo vs vs.length := by
  induction vs generalizing j with
  | nil => simp [sumTo]
  | cons v vs ih =>
    cases j with
    | zero => simp [sumTo]
    | succ k => rw [List.length_cons, sumTo_cons_succ, sumTo_cons_succ]; have := ih k; omega

/-- NULLs ROUND-TRIP: in the record built from any schema-conforming row (when `build` succeeds,
i.e. the variable area fits the u16 offsets), `is_null(i)` reads exactly whether column `i` was
NULL — for every column, any number of columns, no read outside the record. -/
theorem null_roundtrip (s : List ColKind) (row : List (Option (List Nat))) (h : RowOk s row)
    (data : List Nat) (hb : build s (setRow s row 0 (new s)) = .ok data) (i : Nat) (hi : i < s.length) :
    isNull data i = some ((row.getD i none).isNone) := by
  have hir : i < row.length := by rw [rowOk_length h]; exact hi
  rw [setRow_new h] at hb
  rw [isNull_build (shape_cellsOf h) hb
    (cellsOf_get (List.getElem?_eq_getElem hi) (List.getElem?_eq_getElem hir)), cellOf_null]
  simp [List.getD, List.getElem?_eq_getElem hir]

/-- RESET = FRESH (state level): resetting any well-shaped builder state gives exactly the state of
a new builder, hence every later `build` yields the same bytes. -/
theorem reset_eq_new (s : List ColKind) (st : List Cell) (h : Shape s st) : reset s st = new s := by
  fun_induction Shape s st with
  | case1 => rfl
  | case2 n ks c cs ih =>
    have := ih h.2
    simp only [reset, new] at this ⊢
    simp [List.zipWith, resetCell, newCell, this, List.map_const', h.1]
  | case3 ks c cs ih =>
    have := ih h
    simp only [reset, new] at this ⊢
    simp [List.zipWith, resetCell, newCell, this]
  | case4 => exact h.elim

/-- RESET = FRESH (bytes): whatever was set before, `reset` followed by setting a row builds the
same record as a new builder with the same row. -/
theorem build_reset (s : List ColKind) (st : List Cell) (h : Shape s st)
    (row : List (Option (List Nat))) :
    build s (setRow s row 0 (reset s st)) = build s (setRow s row 0 (new s)) := by
  rw [reset_eq_new s st h]

/-- FIXED-WIDTH COLUMNS ROUND-TRIP: in the record built from any schema-conforming row, the getter
of a non-NULL fixed-width column reads exactly the bytes that were set — at offset
`header_len + fixed_offset(i)`, inside the record (never `oob`). Needs the header length to fit
its u16 field. -/
theorem fixed_roundtrip (s : List ColKind) (row : List (Option (List Nat))) (h : RowOk s row)
    (hfit : headerLen s < 65536) (data : List Nat)
    (hb : build s (setRow s row 0 (new s)) = .ok data) (i n : Nat) (b : List Nat)
    (hk : s[i]? = some (.fixed n)) (hr : row[i]? = some (some b)) : TurVerif.Record.get s data i = .val b := by
  rw [setRow_new h] at hb
  exact get_fixed_build (shape_cellsOf h) hfit hb hk (cellsOf_get hk hr) rfl

/-- VARIABLE-WIDTH COLUMNS ROUND-TRIP: under `Fits` (header length and total variable bytes below
2^16) the getter of a non-NULL variable-width column reads exactly the bytes that were set: the
bounds come from the u16 offset table (entry `var_idx - 1` and `var_idx`), start ≤ end, and the slice
lies inside the record. -/
theorem var_roundtrip (s : List ColKind) (row : List (Option (List Nat))) (h : RowOk s row)
    (hfit : Fits s row) (data : List Nat)
    (hb : build s (setRow s row 0 (new s)) = .ok data) (i : Nat) (b : List Nat)
    (hk : s[i]? = some .var) (hr : row[i]? = some (some b)) :
    TurVerif.Record.get s data i = .val b := by
  rw [setRow_new h] at hb
  exact get_var_build (shape_cellsOf h) hfit.1 (varTotal_eq h ▸ hfit.2) hb hk (cellsOf_get hk hr) rfl

/-- under `Fits` the build succeeds (no u16 overflow in the offset-table loop) -/
theorem build_succeeds (s : List ColKind) (row : List (Option (List Nat))) (h : RowOk s row)
    (hfit : Fits s row) : ∃ data, build s (setRow s row 0 (new s)) = .ok data := by
  obtain ⟨t, ht, _⟩ := offsetTable_entries (varCells s (cellsOf s row)) 0
    (by rw [← flatten_length, varTotal_eq h]; have := hfit.2; omega)
  rw [setRow_new h, build, ht]
  exact ⟨_, rfl⟩

/-- VIEW ∘ BUILD (full statement for the direct getters): for every schema, every row that matches
it and fits the u16 fields, the record builds and every column reads back what was set — NULL for
NULL, the exact bytes otherwise — with every read inside the record. -/
theorem view_build (s : List ColKind) (row : List (Option (List Nat))) (h : RowOk s row)
    (hfit : Fits s row) :
    ∃ data, build s (setRow s row 0 (new s)) = .ok data ∧
      ∀ i, i < s.length → TurVerif.Record.get s data i =
        (match row.getD i none with
          | none => Get.null
          | some b => Get.val b) := by
  obtain ⟨data, hb⟩ := build_succeeds s row h hfit
  refine ⟨data, hb, fun i hi => ?_⟩
  have hir : i < row.length := by rw [rowOk_length h]; exact hi
  rw [setRow_new h] at hb
  rw [get_build (shape_cellsOf h) hfit.1 (varTotal_eq h ▸ hfit.2) hb
    (cellsOf_get (List.getElem?_eq_getElem hi) (List.getElem?_eq_getElem hir)), cellOf_null,
    List.getD_eq_getElem?_getD, List.getElem?_eq_getElem hir, Option.getD_some]
  cases row[i] <;> rfl

/-- the record format loses nothing: two rows that match the schema, fit the u16 fields and build
to the same bytes are the same row (NULLs and byte contents included) -/
theorem build_injective (s : List ColKind) (r1 r2 : List (Option (List Nat)))
    (h1 : RowOk s r1) (h2 : RowOk s r2) (f1 : Fits s r1) (f2 : Fits s r2)
    (h : build s (setRow s r1 0 (new s)) = build s (setRow s r2 0 (new s))) : r1 = r2 := by
  obtain ⟨d1, b1, g1⟩ := view_build s r1 h1 f1
  obtain ⟨d2, b2, g2⟩ := view_build s r2 h2 f2
  have hd : d1 = d2 := by
    rw [h, b2] at b1
    injection b1 with e
    exact e.symm
  subst hd
  have l1 := rowOk_length h1
  have l2 := rowOk_length h2
  apply List.ext_getElem (by rw [l1, l2])
  intro i hi1 hi2
  have e1 := g1 i (by omega)
  have e2 := g2 i (by omega)
  rw [e1] at e2
  simp only [List.getD_eq_getElem?_getD, List.getElem?_eq_getElem hi1, List.getElem?_eq_getElem hi2,
    Option.getD_some] at e2
  generalize r1[i] = a, r2[i] = c at e2 ⊢
  cases a <;> cases c <;> simp only [reduceCtorEq, Get.val.injEq] at e2
  · rfl
  · rw [e2]

/-- LAYOUT: the built record is header (2 + bitmap + 2 bytes per variable column), fixed area,
variable area; its first two bytes are the header length. -/
theorem build_length (s : List ColKind) (row : List (Option (List Nat))) (h : RowOk s row)
    (hfit : Fits s row) (data : List Nat) (hb : build s (setRow s row 0 (new s)) = .ok data) :
    data.length = headerLen s + totalFixed s + varTotal s row ∧ rd16 data 0 = some (headerLen s) := by
  rw [setRow_new h] at hb
  obtain ⟨_, _, hrd, _, _, h3⟩ := build_layout (shape_cellsOf h) hb
  exact ⟨by rw [h3.length_eq, List.length_append, fixedArea_length (shape_cellsOf h), varTotal_eq h,
    Nat.add_assoc], hrd hfit.1⟩

/-- VIEW ∘ BUILD through the `_opt` getters (partial): the same round trip holds for
`get_*_opt` / `extract_row_from_record` provided the record has at least one byte after its header
(some fixed column, or some non-empty variable value). `empty_value_counterexample` shows the
restriction is necessary. -/
theorem view_build_opt_partial (s : List ColKind) (row : List (Option (List Nat))) (h : RowOk s row)
    (hfit : Fits s row) (hne : 0 < totalFixed s + varTotal s row) :
    ∃ data, build s (setRow s row 0 (new s)) = .ok data ∧
      ∀ i, i < s.length → getOpt s data i =
        (match row.getD i none with
          | none => Get.null
          | some b => Get.val b) := by
  obtain ⟨data, hb, hget⟩ := view_build s row h hfit
  refine ⟨data, hb, ?_⟩
  intro i hi
  obtain ⟨hlen, hrd⟩ := build_length s row h hfit data hb
  have hgt : ¬ data.length ≤ headerLen s := by omega
  have hcnt : countCols s 0 (data.length - headerLen s) = s.length :=
    countCols_all s 0 _ (by omega)
  have hle : ¬ s.length ≤ i := by omega
  simp only [getOpt, recordColumnCount, hrd, hgt, if_false, hcnt, hle]
  exact hget i hi

/-- the `_opt` getters (used by `OwnedValue::extract_row_from_record`) do NOT satisfy the property:
a record with no byte after the header — here schema (TEXT), row ('') — has
`record_column_count() = 0`, so the non-NULL empty string is reported as NULL, although the direct
getter reads it correctly. -/
theorem empty_value_counterexample :
    build [.var] (setRow [.var] [some []] 0 (new [.var])) = .ok [5, 0, 0, 0, 0] ∧
    getOpt [.var] [5, 0, 0, 0, 0] 0 = .null ∧
    TurVerif.Record.get [.var] [5, 0, 0, 0, 0] 0 = .val [] ∧
    RowOk [.var] [some []] ∧ Fits [.var] [some []] := by
  refine ⟨by decide, by decide, by decide, by simp [RowOk], by unfold Fits; decide⟩

/-- outside `Fits` the offset table cannot represent the row: two 40000-byte values overflow the
u16 accumulator (the dev-profile build panics there) -/
theorem offset_overflow_counterexample (a b : List Nat) (ha : a.length = 40000) (hb : b.length = 40000) :
    build [.var, .var] [⟨false, a⟩, ⟨false, b⟩] = .overflow := by
  simp [build, varCells, isVar, offsetTable, ha, hb]

/-- … and a single 65536-byte value wraps silently (`len as u16 = 0`): the record is built with
end offset 0 -/
theorem offset_wrap_counterexample (v : List Nat) (hv : v.length = 65536) :
    build [.var] [⟨false, v⟩] = .ok ([5, 0] ++ [0] ++ [0, 0] ++ v) := by
  simp [build, varCells, isVar, offsetTable, hv, le16, headerLen, varCount, bitmapSize, bitmap,
    packByte, bit, fixedArea, List.filter_cons]

/-- non-vacuity: a mixed schema and row satisfying the hypotheses, and what is built / read -/
example : RowOk [.fixed 1, .var, .fixed 4, .var] [some [1], some [104, 105], none, some [65]] ∧
    Fits [.fixed 1, .var, .fixed 4, .var] [some [1], some [104, 105], none, some [65]] ∧
    build [.fixed 1, .var, .fixed 4, .var]
      (setRow [.fixed 1, .var, .fixed 4, .var] [some [1], some [104, 105], none, some [65]] 0
        (new [.fixed 1, .var, .fixed 4, .var]))
      = .ok [7, 0, 4, 2, 0, 3, 0, 1, 0, 0, 0, 0, 104, 105, 65] := by
  refine ⟨by simp [RowOk], by unfold Fits; decide, by decide⟩

end TurVerif.C31
