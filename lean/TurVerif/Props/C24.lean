import TurVerif.Model.Dist
/-!
C24  Vector distance ordering is exact.
Theorems about `TurVerif.Dist` (model of src/hnsw/distance.rs over `Rat`; rounding not modelled):
every vector kernel (any lane width, in particular AVX2 = 8 lanes and NEON = 4 lanes) returns the
scalar definition for EVERY length and never reads outside the vectors; the scalar loop equals the
definition; squared L2 is non-negative and zero exactly on equal vectors; `ORDER BY d LIMIT k`
(= sort + take) returns k rows with the k smallest distances.
-/
namespace TurVerif.C24
open TurVerif.Dist

def lsum : List Rat → Rat
  | [] => 0
  | x :: xs => x + lsum xs

theorem sq_nonneg (x : Rat) : 0 ≤ x * x :=
  (Rat.nonneg_total x).elim (fun h => Rat.mul_nonneg h h) fun h => by
    have := Rat.mul_nonneg h h
    rwa [Rat.neg_mul, Rat.mul_neg, Rat.neg_neg] at this

theorem sqd_nonneg (x y : Rat) : 0 ≤ sqd x y := sq_nonneg (x - y)

theorem sqd_zero_iff (x y : Rat) : sqd x y = 0 ↔ x = y := by
  unfold sqd
  rw [Rat.mul_eq_zero, or_self]
  exact ⟨fun h => by rw [← Rat.sub_add_cancel (a := x) (b := y), h, Rat.zero_add],
    fun h => h ▸ Rat.sub_self⟩

theorem add_eq_zero_iff {a b : Rat} (ha : 0 ≤ a) (hb : 0 ≤ b) : a + b = 0 ↔ a = 0 ∧ b = 0 := by
  refine ⟨fun h => ?_, fun ⟨h1, h2⟩ => by rw [h1, h2, Rat.add_zero]⟩
  have hba : b = -a := by
    rw [← Rat.zero_add b, ← Rat.neg_add_cancel a, Rat.add_assoc, h, Rat.add_zero]
  have ha0 : a = 0 := Rat.nonneg_antisymm ha (hba ▸ hb)
  exact ⟨ha0, by rw [ha0, Rat.zero_add] at h; exact h⟩

section
variable (f : Rat → Rat → Rat)

theorem scalarLoop_acc (a b : List Rat) (acc : Rat) :
    scalarLoop f a b acc = acc + sumDef f a b := by
  induction a generalizing b acc with
  | nil => exact (Rat.add_zero acc).symm
  | cons x xs ih =>
    cases b with
    | nil => exact (Rat.add_zero acc).symm
    | cons y ys => exact (ih ys _).trans (Rat.add_assoc ..)

theorem sumDef_append (x1 y1 x2 y2 : List Rat) (h : x1.length = y1.length) :
    sumDef f (x1 ++ x2) (y1 ++ y2) = sumDef f x1 y1 + sumDef f x2 y2 := by
  induction x1 generalizing y1 with
  | nil =>
    obtain rfl := List.length_eq_zero_iff.1 h.symm
    exact (Rat.zero_add _).symm
  | cons x xs ih =>
    cases y1 with
    | nil => cases h
    | cons y ys =>
      exact (congrArg (f x y + ·) (ih ys (Nat.succ.inj h))).trans (Rat.add_assoc ..).symm

theorem loadW_eq (v : List Rat) (i w : Nat) (h : i + w ≤ v.length) :
    loadW v i w = some ((v.drop i).take w) := by
  induction w generalizing i with
  | zero => rfl
  | succ w ih =>
    have hi : i < v.length := Nat.lt_of_lt_of_le (Nat.lt_add_of_pos_right (Nat.succ_pos w)) h
    rw [loadW, List.getElem?_eq_getElem hi, ih (i + 1) (Nat.add_right_comm i 1 w ▸ h), List.drop_eq_getElem_cons hi]
    rfl

theorem fmaddW_sum (acc va vb : List Rat)
    (h1 : va.length = acc.length) (h2 : vb.length = acc.length) :
    (fmaddW f acc va vb).length = acc.length ∧
    lsum (fmaddW f acc va vb) = lsum acc + sumDef f va vb := by
  induction acc generalizing va vb with
  | nil =>
    obtain rfl := List.length_eq_zero_iff.1 h1
    exact ⟨rfl, (Rat.add_zero _).symm⟩
  | cons c cs ih =>
    cases va with
    | nil => cases h1
    | cons x xs =>
      cases vb with
      | nil => cases h2
      | cons y ys =>
        have ⟨hl, hs⟩ := ih xs ys (Nat.succ.inj h1) (Nat.succ.inj h2)
        refine ⟨congrArg (· + 1) hl, ?_⟩
        show c + f x y + lsum (fmaddW f cs xs ys) = c + lsum cs + (f x y + sumDef f xs ys)
        rw [hs, Rat.add_assoc, Rat.add_assoc, Rat.add_left_comm (f x y)]

theorem length_take_drop {v : List Rat} {i w : Nat} (h : i + w ≤ v.length) :
    ((v.drop i).take w).length = w :=
  List.length_take_of_le (List.length_drop ▸ Nat.le_sub_of_add_le' h)

theorem sumDef_drop_split (a b : List Rat) (i w : Nat)
    (ha : i + w ≤ a.length) (hb : i + w ≤ b.length) :
    sumDef f (a.drop i) (b.drop i) =
      sumDef f ((a.drop i).take w) ((b.drop i).take w) +
      sumDef f (a.drop (i + w)) (b.drop (i + w)) := by
  rw [← sumDef_append f _ _ _ _ ((length_take_drop ha).trans (length_take_drop hb).symm),
    ← List.drop_drop,
    ← List.drop_drop, List.take_append_drop, List.take_append_drop]

theorem fuel_step {n i W fuel : Nat} (hW : 0 < W) (hc : i + W ≤ n) (hf : n - i < fuel + 1) :
    n - (i + W) < fuel := by
  omega

/-- The chunked loop: it stops at some `j ≤ n` with `W` lanes whose sum, together with the terms
from `j` on, is what the lanes and the terms from `i` on came to at the start. -/
theorem vecLoop_spec (W : Nat) (hW : 0 < W) (a b : List Rat) (n : Nat)
    (ha : a.length = n) (hb : b.length = n) :
    ∀ (fuel i : Nat) (acc : List Rat), i ≤ n → n - i < fuel → acc.length = W →
    ∃ j acc', vecLoop W f a b n fuel i acc = some (j, acc') ∧ j ≤ n ∧ acc'.length = W ∧
      lsum acc' + sumDef f (a.drop j) (b.drop j) = lsum acc + sumDef f (a.drop i) (b.drop i) := by
  intro fuel i acc hi hf hacc
  fun_induction vecLoop W f a b n fuel i acc with
  | case1 => exact absurd hf (Nat.not_lt_zero _)
  | case2 fuel i acc hc va vb hvb hva ih =>
    have hca : i + W ≤ a.length := ha ▸ hc
    have hcb : i + W ≤ b.length := hb ▸ hc
    obtain rfl := Option.some.inj ((loadW_eq a i W hca).symm.trans hva)
    obtain rfl := Option.some.inj ((loadW_eq b i W hcb).symm.trans hvb)
    have ⟨hlen, hsum⟩ := fmaddW_sum f acc _ _ ((length_take_drop hca).trans hacc.symm)
      ((length_take_drop hcb).trans hacc.symm)
    have ⟨j, acc', e, hj, hlen', hsum'⟩ := ih hc (fuel_step hW hc hf) (hlen.trans hacc)
    refine ⟨j, acc', e, hj, hlen', ?_⟩
    rw [hsum', hsum, sumDef_drop_split f a b i W hca hcb, Rat.add_assoc]
  | case3 fuel i acc hc hnone =>
    exact (hnone _ _ (loadW_eq a i W (ha ▸ hc)) (loadW_eq b i W (hb ▸ hc))).elim
  | case4 fuel i acc hc => exact ⟨i, acc, rfl, hi, hacc, rfl⟩

theorem tailLoop_spec (a b : List Rat) (n : Nat)
    (ha : a.length = n) (hb : b.length = n) :
    ∀ (fuel i : Nat) (r : Rat), i ≤ n → n - i < fuel →
    tailLoop f a b n fuel i r = some (r + sumDef f (a.drop i) (b.drop i)) := by
  intro fuel i r hi hf
  fun_induction tailLoop f a b n fuel i r with
  | case1 => exact absurd hf (Nat.not_lt_zero _)
  | case2 fuel i r hc x y hy hx ih =>
    have ⟨h1, ex⟩ := List.getElem?_eq_some_iff.1 hx
    have ⟨h2, ey⟩ := List.getElem?_eq_some_iff.1 hy
    rw [ih hc (fuel_step Nat.one_pos hc hf), List.drop_eq_getElem_cons h1,
      List.drop_eq_getElem_cons h2, ex, ey, Rat.add_assoc]
    rfl
  | case3 fuel i r hc hnone =>
    exact (hnone _ _ (List.getElem?_eq_getElem (ha ▸ hc)) (List.getElem?_eq_getElem (hb ▸ hc))).elim
  | case4 fuel i r hc =>
    obtain rfl := Nat.le_antisymm hi (Nat.le_of_not_lt hc)
    rw [List.drop_of_length_le (Nat.le_of_eq ha), List.drop_of_length_le (Nat.le_of_eq hb)]
    exact congrArg some (Rat.add_zero r).symm

end

theorem lsum_replicate_zero (W : Nat) : lsum (List.replicate W 0) = 0 := by
  induction W with
  | zero => rfl
  | succ w ih => exact (Rat.zero_add _).trans ih

theorem exists_four {l : List Rat} {n : Nat} (h : l.length = n + 4) :
    ∃ a b c d t, l = a :: b :: c :: d :: t ∧ t.length = n :=
  match l, h with
  | a :: b :: c :: d :: t, h => ⟨a, b, c, d, t, rfl, Nat.add_right_cancel (m := 4) h⟩

theorem hsum8_eq (acc : List Rat) (h : acc.length = 8) : hsum8 acc = lsum acc := by
  obtain ⟨l0, l1, l2, l3, t, rfl, ht⟩ := exists_four (n := 4) h
  obtain ⟨l4, l5, l6, l7, t', rfl, ht'⟩ := exists_four (n := 0) ht
  obtain rfl := List.length_eq_zero_iff.1 ht'
  show l0 + l4 + (l2 + l6) + (l1 + l5 + (l3 + l7)) =
    l0 + (l1 + (l2 + (l3 + (l4 + (l5 + (l6 + (l7 + 0)))))))
  ac_rfl

theorem hsum4_eq (acc : List Rat) (h : acc.length = 4) : hsum4 acc = lsum acc := by
  obtain ⟨l0, l1, l2, l3, t, rfl, ht⟩ := exists_four (n := 0) h
  obtain rfl := List.length_eq_zero_iff.1 ht
  show l0 + l1 + (l2 + l3) = l0 + (l1 + (l2 + (l3 + 0)))
  rw [Rat.add_zero, Rat.add_assoc]

theorem scalar_eq_def (f : Rat → Rat → Rat) (a b : List Rat) :
    scalarLoop f a b 0 = sumDef f a b :=
  (scalarLoop_acc f a b 0).trans (Rat.zero_add _)

/-- KERNEL = DEFINITION for every lane width `W > 0`, every horizontal sum that adds the `W` lanes,
every term function, and every pair of equally long vectors of ANY length: the kernel returns a
value (no out-of-bounds read, no fuel exhaustion) and the value is `Σ_i f a_i b_i` — every index
is used exactly once, none beyond `n`. -/
theorem kernel_eq_def (W : Nat) (hW : 0 < W) (hs : List Rat → Rat)
    (hhs : ∀ acc : List Rat, acc.length = W → hs acc = lsum acc)
    (f : Rat → Rat → Rat) (a b : List Rat) (hlen : a.length = b.length) :
    kernel W hs f a b = some (sumDef f a b) := by
  have hfuel : ∀ i, a.length - i < a.length + 1 := fun i => Nat.lt_succ_of_le (Nat.sub_le _ _)
  have ⟨j, acc', e, hj, hl, hsum⟩ :=
    vecLoop_spec f W hW a b a.length rfl hlen.symm (a.length + 1) 0 (List.replicate W 0)
      (Nat.zero_le _) (hfuel 0) List.length_replicate
  unfold kernel
  simp only [e]
  rw [tailLoop_spec f a b a.length rfl hlen.symm (a.length + 1) j _ hj (hfuel j), hhs acc' hl,
    hsum, lsum_replicate_zero, Rat.zero_add]
  rfl

theorem avx2_eq_def (f : Rat → Rat → Rat) (a b : List Rat) (hlen : a.length = b.length) :
    kernel 8 hsum8 f a b = some (sumDef f a b) :=
  kernel_eq_def 8 (Nat.succ_pos _) hsum8 hsum8_eq f a b hlen

theorem neon_eq_def (f : Rat → Rat → Rat) (a b : List Rat) (hlen : a.length = b.length) :
    kernel 4 hsum4 f a b = some (sumDef f a b) :=
  kernel_eq_def 4 (Nat.succ_pos _) hsum4 hsum4_eq f a b hlen

/-- the same statement over length-indexed vectors, for the four kernels of distance.rs -/
theorem kernel_eq_def_vec (n : Nat) (a b : Vector Rat n) :
    l2sqAvx2 a.toList b.toList = some (l2sqDef a.toList b.toList) ∧
    dotAvx2 a.toList b.toList = some (dotDef a.toList b.toList) ∧
    l2sqNeon a.toList b.toList = some (l2sqDef a.toList b.toList) ∧
    dotNeon a.toList b.toList = some (dotDef a.toList b.toList) := by
  have hl : a.toList.length = b.toList.length := a.length_toList.trans b.length_toList.symm
  exact ⟨avx2_eq_def sqd _ _ hl, avx2_eq_def prd _ _ hl, neon_eq_def sqd _ _ hl,
    neon_eq_def prd _ _ hl⟩

theorem l2sq_kernels_eq_scalar (a b : List Rat) (hlen : a.length = b.length) :
    l2sqAvx2 a b = some (l2sqScalar a b) ∧ l2sqNeon a b = some (l2sqScalar a b) := by
  unfold l2sqScalar
  rw [scalar_eq_def]
  exact ⟨avx2_eq_def sqd a b hlen, neon_eq_def sqd a b hlen⟩

/-- cosine: the vector kernels (three accumulators + zero-norm guard) produce the same ordering key
as the scalar loop and as the definition -/
theorem cosine_kernels_eq_def (a b : List Rat) (hlen : a.length = b.length) :
    cosSimSqKernel 8 hsum8 a b = some (cosSimSqDef a b) ∧
    cosSimSqKernel 4 hsum4 a b = some (cosSimSqDef a b) ∧
    cosSimSqScalar a b = cosSimSqDef a b := by
  unfold cosSimSqKernel cosSimSqScalar cosSimSqDef
  simp only [avx2_eq_def _ a b hlen, neon_eq_def _ a b hlen, scalar_eq_def, and_self]

/-- a kernel run on a second operand that is SHORTER than the first reads out of bounds
(`n = a.len()` drives both loops; the Rust code is `unsafe` and documents equal length as the
caller's obligation) -/
theorem kernel_oob_example :
    l2sqAvx2 [1, 2, 3] [1, 2] = none ∧ l2sqNeon [1, 2, 3, 4, 5] [1, 2, 3, 4] = none := by
  decide

theorem sumDef_nonneg {f : Rat → Rat → Rat} (hf : ∀ x y, 0 ≤ f x y) (a b : List Rat) :
    0 ≤ sumDef f a b := by
  induction a generalizing b with
  | nil => exact Rat.le_refl
  | cons x xs ih =>
    cases b with
    | nil => exact Rat.le_refl
    | cons y ys => exact Rat.add_nonneg (hf x y) (ih ys)

theorem l2_nonneg (a b : List Rat) : 0 ≤ l2sqDef a b := sumDef_nonneg sqd_nonneg a b

theorem sumDef_eq_zero_iff {f : Rat → Rat → Rat} (hf : ∀ x y, 0 ≤ f x y)
    (hz : ∀ x y, f x y = 0 ↔ x = y) (a b : List Rat) (hlen : a.length = b.length) :
    sumDef f a b = 0 ↔ a = b := by
  induction a generalizing b with
  | nil =>
    obtain rfl := List.length_eq_zero_iff.1 hlen.symm
    exact iff_of_true rfl rfl
  | cons x xs ih =>
    cases b with
    | nil => cases hlen
    | cons y ys =>
      show f x y + sumDef f xs ys = 0 ↔ _
      rw [add_eq_zero_iff (hf x y) (sumDef_nonneg hf xs ys), hz, ih ys (Nat.succ.inj hlen),
        List.cons.injEq]

theorem l2_zero_iff (a b : List Rat) (hlen : a.length = b.length) :
    l2sqDef a b = 0 ↔ a = b :=
  sumDef_eq_zero_iff sqd_nonneg sqd_zero_iff a b hlen

theorem sumDef_symm (f : Rat → Rat → Rat) (hf : ∀ x y, f x y = f y x) (a b : List Rat) :
    sumDef f a b = sumDef f b a := by
  induction a generalizing b with
  | nil => cases b <;> rfl
  | cons x xs ih =>
    cases b with
    | nil => rfl
    | cons y ys => show f x y + _ = f y x + _; rw [hf x y, ih ys]

/-- the exact squared L2 distance is symmetric (`a <-> b` and `b <-> a` order rows alike) -/
theorem l2_symm (a b : List Rat) : l2sqDef a b = l2sqDef b a :=
  sumDef_symm sqd (fun x y => by
    unfold sqd; rw [← Rat.neg_sub y x, Rat.neg_mul, Rat.mul_neg, Rat.neg_neg]) a b

/-- the exact dot product (numerator of the cosine distance) is symmetric -/
theorem dot_symm (a b : List Rat) : dotDef a b = dotDef b a :=
  sumDef_symm prd Rat.mul_comm a b

/-- k-NN specification: sorting by distance and taking `k` yields `min k |rows|` rows, in
non-decreasing distance, that are (with the remaining rows) a permutation of the table, and every
returned row is at least as close as every row that was not returned. -/
theorem knn_spec {α : Type} (d : α → Rat) (rows : List α) (k : Nat) :
    (knn d rows k).length = min k rows.length ∧
    (knn d rows k).Pairwise (fun x y => d x ≤ d y) ∧
    ∃ rest, (knn d rows k ++ rest).Perm rows ∧ ∀ x ∈ knn d rows k, ∀ y ∈ rest, d x ≤ d y := by
  have hperm := List.mergeSort_perm rows (fun x y => decide (d x ≤ d y))
  have hsorted : (rows.mergeSort (fun x y => decide (d x ≤ d y))).Pairwise
      (fun x y => d x ≤ d y) := by
    have := List.pairwise_mergeSort (le := fun x y => decide (d x ≤ d y))
      (fun a b c h1 h2 => decide_eq_true (Rat.le_trans (of_decide_eq_true h1) (of_decide_eq_true h2)))
      (fun a b => by
        simp only [Bool.or_eq_true, decide_eq_true_eq]; exact Rat.le_total) rows
    simpa using this
  unfold knn
  refine ⟨?_, hsorted.sublist (List.take_sublist _ _),
    (rows.mergeSort fun x y => decide (d x ≤ d y)).drop k, ?_, ?_⟩
  · rw [List.length_take, hperm.length_eq]
  · rw [List.take_append_drop]; exact hperm
  · rw [← List.take_append_drop k (rows.mergeSort _), List.pairwise_append] at hsorted
    exact hsorted.2.2

/-- LIMIT monotonicity: the `k` nearest rows are the first `k` of the `k + m` nearest rows -/
theorem knn_prefix {α : Type} (d : α → Rat) (rows : List α) (k m : Nat) :
    knn d rows k = (knn d rows (k + m)).take k := by
  unfold knn
  rw [List.take_take, Nat.min_eq_left (Nat.le_add_right k m)]

/-- non-vacuity: the hypotheses of `kernel_eq_def` are satisfiable at a length that has both a
full chunk and a tail (9 = 8 + 1), and a concrete k-NN run -/
example : l2sqAvx2 [1, 2, 3, 4, 5, 6, 7, 8, 9] [0, 0, 0, 0, 0, 0, 0, 0, 0] =
    some (l2sqDef [1, 2, 3, 4, 5, 6, 7, 8, 9] [0, 0, 0, 0, 0, 0, 0, 0, 0]) :=
  avx2_eq_def sqd _ _ rfl

example : (knn (fun (p : Nat × Rat) => p.2) [(1, 5), (2, 3), (3, 4), (4, 3)] 2).length = 2 :=
  (knn_spec _ _ _).1

example : l2sqDef [1, 2, 3] [4, 6, 3] = l2sqDef [4, 6, 3] [1, 2, 3] := l2_symm _ _

end TurVerif.C24
