import TurVerif.Model.SqlFn
/-!
C20  Scalar functions, CAST and arithmetic match their definitions.

`TurVerif.SqlFn` is the reference definition (M-spec) of the documented functions over code
points; the theorems below state the laws the property names: NULL strictness, characters (not
bytes), integer overflow is an error (never a wrapped value), division by zero is never a value.
The executor is not modelled: engine `sql_fn` compares `SELECT f(args)` on the real engine with
`SqlFn.apply` on boundary integers, Unicode strings and NULLs in every argument position.
-/
namespace TurVerif.C20
open TurVerif.Sql TurVerif.SqlFn

theorem chkInt_fits {i : Int} (h : i64Min ≤ i ∧ i ≤ i64Max) : chkInt i = .ok (.int i) := if_pos h

theorem chkInt_err_iff (i : Int) : chkInt i = .error .overflow ↔ ¬ (i64Min ≤ i ∧ i ≤ i64Max) :=
  ⟨fun h hfit => (by rw [chkInt_fits hfit] at h; cases h), fun h => if_neg h⟩

theorem chkInt_cases (i : Int) : chkInt i = .ok (.int i) ∨ chkInt i = .error .overflow :=
  (Decidable.em _).imp chkInt_fits (chkInt_err_iff i).mpr

theorem chkInt_total (i : Int) :
    (∃ j, chkInt i = .ok (.int j) ∧ i64Min ≤ j ∧ j ≤ i64Max) ∨ chkInt i = .error .overflow :=
  (Decidable.em _).imp (fun h => ⟨i, chkInt_fits h, h⟩) (chkInt_err_iff i).mpr

/-! On arguments given by constructors `apply f args` reduces by evaluation: the strictness test
`f.isStrict && args.any Val.isNull` computes and `applyNN` selects its branch.  The proofs below
that are `rfl`, or a lemma about the reduct used as it stands, rely on this. -/

/-- every strict function returns NULL as soon as one argument is NULL (no error, no value) -/
theorem strict_null (f : Fn) (args : List Val) (hf : f.isStrict = true) (hn : Val.null ∈ args) :
    apply f args = .ok .null := by
  unfold apply
  have : args.any Val.isNull = true := List.any_eq_true.mpr ⟨.null, hn, rfl⟩
  simp [hf, this]

/-- the list of strict functions, spelled out (so the definition of `isStrict` cannot silently
shrink): all string functions except CONCAT_WS, all numeric functions except GREATEST/LEAST, CAST,
and the arithmetic operators -/
theorem strict_list :
    [Fn.charLength, .length, .upper, .lower, .substr, .left, .right, .locate, .instr, .reverse,
     .lpad, .rpad, .trim, .ltrim, .rtrim, .replace, .concat, .repeat_, .ascii, .abs, .sign, .mod,
     .power, .round, .floor, .ceil, .truncate, .castInt, .castText, .castBool, .castFloat,
     .add, .sub, .mul, .div, .rem, .neg, .concatOp].all Fn.isStrict = true := by decide

theorem apply_coalesce (as : List Val) :
    apply .coalesce as = .ok ((as.find? (fun v => !v.isNull)).getD .null) := rfl

theorem coalesce_first_non_null (v : Val) (rest : List Val) (hv : v.isNull = false) :
    apply .coalesce (.null :: v :: rest) = .ok v := by
  rw [apply_coalesce, List.find?_cons_of_neg (by decide), List.find?_cons_of_pos (by rw [hv]; rfl)]
  rfl

theorem coalesce_all_null (n : Nat) : apply .coalesce (List.replicate n .null) = .ok .null := by
  have : (List.replicate n Val.null).find? (fun v => !v.isNull) = none :=
    List.find?_eq_none.mpr fun x hx => by rw [List.eq_of_mem_replicate hx]; decide
  rw [apply_coalesce, this]
  rfl

theorem ifnull_def (a b : Val) : apply .ifnull [a, b] = .ok (if a.isNull then b else a) := rfl

theorem nullif_null_left (b : Val) : apply .nullif [.null, b] = .ok .null := rfl

theorem nullif_null_right (a : Val) : apply .nullif [a, .null] = .ok a := by
  cases a <;> rfl

theorem concat_ws_skips_null (sep a b : String) :
    apply .concatWs [.text sep, .text a, .null, .text b]
      = .ok (mkText (a.toList ++ sep.toList ++ b.toList)) := rfl

/-- CHAR_LENGTH counts code points -/
theorem length_counts_chars (s : String) :
    apply .charLength [.text s] = .ok (.int s.toList.length) := rfl

theorem utf8OfChar_length (c : Char) : (utf8OfChar c).length = utf8Len c := by
  simp only [utf8OfChar, utf8Len, apply_ite List.length, List.length_cons, List.length_nil]

theorem utf8Len_pos (c : Char) : 1 ≤ utf8Len c := by
  simp only [utf8Len]
  split
  · decide
  · split
    · decide
    · split <;> decide

/-- LENGTH is the documented byte length: the sum of the UTF-8 sizes of the characters -/
theorem byteLen_eq_sum (l : List Char) : byteLen l = (l.map utf8Len).sum := by
  unfold byteLen utf8Bytes
  rw [List.length_flatMap]
  congr 2
  exact funext utf8OfChar_length

theorem charLen_le_byteLen (l : List Char) : charLen l ≤ byteLen l := by
  rw [byteLen_eq_sum]
  unfold charLen
  induction l with
  | nil => exact Nat.le_refl _
  | cons c cs ih =>
    rw [List.length_cons, List.map_cons, List.sum_cons]
    have := utf8Len_pos c
    omega

/-- witnesses that the two notions differ: a 2-byte character, a 4-byte character, and `e` + combining acute
(2 characters, 3 bytes) -/
theorem length_bytes_vs_chars_witness :
    charLen ['é'] = 1 ∧ byteLen ['é'] = 2 ∧ charLen ['😀'] = 1 ∧ byteLen ['😀'] = 4 ∧
    charLen ['e', Char.ofNat 769] = 2 ∧ byteLen ['e', Char.ofNat 769] = 3 := by decide

theorem natCast_not_neg (n : Nat) : ¬ ((n : Int) < 0) := Int.not_lt.mpr (Int.natCast_nonneg n)

theorem substr_natLen (l : List Char) (pos : Int) (len : Nat) :
    substr l pos (some (len : Int)) =
      if pos = 0 then [] else
        (l.drop (if pos > 0 then (pos - 1).toNat else l.length - (-pos).toNat)).take len := by
  simp only [substr, natCast_not_neg len, if_false, Int.toNat_natCast]

/-- SUBSTR slices characters: for a position inside the string and a non-negative length it is
`drop (pos-1)` then `take len` on the code-point list -/
theorem substr_slices_chars (l : List Char) (pos len : Nat) (hp : 1 ≤ pos) :
    substr l (pos : Int) (some (len : Int)) = (l.drop (pos - 1)).take len := by
  have h1 : (pos : Int) > 0 := Int.natCast_pos.mpr hp
  rw [substr_natLen, if_neg (Int.ne_of_gt h1), if_pos h1]
  congr 2
  exact Int.toNat_sub pos 1

theorem substr_length_le (l : List Char) (pos : Int) (len : Nat) :
    (substr l pos (some (len : Int))).length ≤ len := by
  rw [substr_natLen]
  split
  · exact Nat.zero_le _
  · exact List.length_take_le _ _

/-- witness with a 2-byte character: character slicing returns 'a'; slicing the UTF-8 bytes at
the same offsets returns the continuation byte 0xA9 of 'é' -/
theorem substr_bytes_vs_chars_witness :
    substr ['é', 'a'] 2 (some 1) = ['a'] ∧
    ((utf8Bytes ['é', 'a']).drop 1).take 1 = [169] ∧
    leftN ['é', 'a'] 1 = ['é'] ∧ (utf8Bytes ['é', 'a']).take 1 = [195] ∧
    locate ['a'] ['é', 'a'] 1 = 2 := by decide

/-- the pinned INSTR (M-code `instrImpl`, byte offsets; shown equal to the real `eval_instr` by the
harness on every generated INSTR case) violates "positions count characters": concrete witness,
known finding C20-instr-byte-position -/
theorem instr_impl_bytes_counterexample :
    instrImpl ['h', 'é', 'l', 'l', 'o'] ['l'] = 4 ∧ instr ['h', 'é', 'l', 'l', 'o'] ['l'] = 3 ∧
    locate ['l'] ['h', 'é', 'l', 'l', 'o'] 1 = 3 := by decide

/-- on ASCII-only haystacks up to the match the two agree (partial statement: pure-ASCII example
family; the general ASCII theorem is not proved here) -/
theorem instr_impl_ascii_partial :
    instrImpl ['a', 'b', 'c', 'a', 'b'] ['c', 'a'] = instr ['a', 'b', 'c', 'a', 'b'] ['c', 'a'] ∧
    instrImpl ['a', 'b'] ['x'] = instr ['a', 'b'] ['x'] ∧ instrImpl [] [] = instr [] [] := by decide

theorem reverse_involutive (l : List Char) : List.reverse (List.reverse l) = l := List.reverse_reverse l

theorem left_right_length (l : List Char) (n : Nat) :
    (leftN l n).length = min n l.length ∧ (rightN l n).length = min n l.length := by
  simp only [leftN, rightN, natCast_not_neg n, if_false, Int.toNat_natCast, List.length_take, List.length_drop,
    true_and]
  omega

theorem cycleTake_length (pad : List Char) (n : Nat) : (cycleTake pad n).length = n := by
  simp [cycleTake]

/-- what `lpad` and `rpad` share: truncate when `l` is long enough, else (the pad string being
non-empty) return `padded`, which is `l` with the missing `k - l.length` characters added -/
theorem pad_length {l pad padded out : List Char} {k : Nat} (hp : pad ≠ [])
    (hlen : padded.length = k - l.length + l.length)
    (h : (if l.length ≥ k then some (l.take k) else if pad.isEmpty then some l else some padded)
      = some out) : out.length = k := by
  split at h
  · cases h
    exact List.length_take_of_le ‹_›
  · rw [if_neg (mt List.isEmpty_iff.mp hp)] at h
    cases h
    omega

theorem lpad_length (l pad : List Char) (n : Nat) (hp : pad ≠ []) (out : List Char)
    (h : lpad l n pad = some out) : out.length = n := by
  simp only [lpad, natCast_not_neg n, if_false, Int.toNat_natCast] at h
  exact pad_length hp (by rw [List.length_append, cycleTake_length]) h

theorem rpad_length (l pad : List Char) (n : Nat) (hp : pad ≠ []) (out : List Char)
    (h : rpad l n pad = some out) : out.length = n := by
  simp only [rpad, natCast_not_neg n, if_false, Int.toNat_natCast] at h
  exact pad_length hp (by rw [List.length_append, cycleTake_length, Nat.add_comm]) h

/-- `a + b` / `a - b` / `a * b` on 64-bit integers: the result is the exact result, or the error
`overflow` exactly when the exact result is outside [-2^63, 2^63) — never a wrapped value -/
theorem checked_add_err_iff (a b : Int) :
    apply .add [.int a, .int b] = .error .overflow ↔ ¬ (i64Min ≤ a + b ∧ a + b ≤ i64Max) :=
  chkInt_err_iff (a + b)

theorem checked_sub_err_iff (a b : Int) :
    apply .sub [.int a, .int b] = .error .overflow ↔ ¬ (i64Min ≤ a - b ∧ a - b ≤ i64Max) :=
  chkInt_err_iff (a - b)

theorem checked_mul_err_iff (a b : Int) :
    apply .mul [.int a, .int b] = .error .overflow ↔ ¬ (i64Min ≤ a * b ∧ a * b ≤ i64Max) :=
  chkInt_err_iff (a * b)

theorem checked_div_err_iff (a b : Int) (hb : b ≠ 0) :
    apply .div [.int a, .int b] = .error .overflow ↔
      ¬ (i64Min ≤ Int.tdiv a b ∧ Int.tdiv a b ≤ i64Max) := by
  rw [show apply .div [.int a, .int b] = chkInt (Int.tdiv a b) from if_neg hb]
  exact chkInt_err_iff _

theorem checked_neg_err_iff (a : Int) :
    apply .neg [.int a] = .error .overflow ↔ ¬ (i64Min ≤ -a ∧ -a ≤ i64Max) :=
  chkInt_err_iff (-a)

/-- the exact (unbounded) result of a binary integer operator; `/` truncates toward zero and `%`
has the sign of the dividend (Rust / C / SQL semantics) -/
def exactOp : Fn → Int → Int → Int
  | .add, a, b => a + b
  | .sub, a, b => a - b
  | .mul, a, b => a * b
  | .div, a, b => Int.tdiv a b
  | .rem, a, b => Int.tmod a b
  | _, _, _ => 0

/-- the five integer operators in one equation: division by zero, else the checked exact result -/
theorem apply_intOp (f : Fn) (hf : f = .add ∨ f = .sub ∨ f = .mul ∨ f = .div ∨ f = .rem)
    (a b : Int) :
    apply f [.int a, .int b] =
      if (f = .div ∨ f = .rem) ∧ b = 0 then .error .divzero else chkInt (exactOp f a b) := by
  rcases hf with rfl | rfl | rfl | rfl | rfl
  · rfl
  · rfl
  · rfl
  -- division and remainder
  all_goals
    by_cases hb : b = 0
    · subst hb; rfl
    · exact (if_neg hb).trans (if_neg fun h => hb h.2).symm

/-- the property's statement in one theorem: a checked operator reports `overflow` exactly when
the exact result does not fit in 64 bits (incl. `MIN / -1`), and otherwise returns the exact
result -/
theorem checked_op_err_iff (f : Fn) (hf : f = .add ∨ f = .sub ∨ f = .mul ∨ f = .div ∨ f = .rem)
    (a b : Int) (hb : (f = .div ∨ f = .rem) → b ≠ 0) :
    (apply f [.int a, .int b] = .error .overflow ↔
      ¬ (i64Min ≤ exactOp f a b ∧ exactOp f a b ≤ i64Max)) ∧
    ((i64Min ≤ exactOp f a b ∧ exactOp f a b ≤ i64Max) →
      apply f [.int a, .int b] = .ok (.int (exactOp f a b))) := by
  rw [apply_intOp f hf, if_neg fun h => hb h.1 h.2]
  exact ⟨chkInt_err_iff _, chkInt_fits⟩

theorem checked_add_exact (a b : Int) (h : i64Min ≤ a + b ∧ a + b ≤ i64Max) :
    apply .add [.int a, .int b] = .ok (.int (a + b)) :=
  chkInt_fits h

theorem checked_mul_exact (a b : Int) (h : i64Min ≤ a * b ∧ a * b ≤ i64Max) :
    apply .mul [.int a, .int b] = .ok (.int (a * b)) :=
  chkInt_fits h

/-- an arithmetic operator on two integers yields an integer, NULL never, or one of the two
errors: nothing else (in particular no wrapped value: by the `_err_iff` theorems the integer is
the exact one) -/
theorem checked_op_total (f : Fn) (hf : f = .add ∨ f = .sub ∨ f = .mul ∨ f = .div ∨ f = .rem)
    (a b : Int) :
    (∃ i, apply f [.int a, .int b] = .ok (.int i) ∧ i64Min ≤ i ∧ i ≤ i64Max) ∨
    apply f [.int a, .int b] = .error .overflow ∨ apply f [.int a, .int b] = .error .divzero := by
  rw [apply_intOp f hf]
  split
  · exact Or.inr (Or.inr rfl)
  · exact (chkInt_total _).imp id Or.inl

/-- the boundary cases named in the property -/
theorem overflow_boundaries :
    apply .add [.int i64Max, .int 1] = .error .overflow ∧
    apply .sub [.int i64Min, .int 1] = .error .overflow ∧
    apply .mul [.int i64Max, .int 2] = .error .overflow ∧
    apply .mul [.int i64Min, .int (-1)] = .error .overflow ∧
    apply .div [.int i64Min, .int (-1)] = .error .overflow ∧
    apply .neg [.int i64Min] = .error .overflow ∧
    apply .abs [.int i64Min] = .error .overflow ∧
    apply .rem [.int i64Min, .int (-1)] = .ok (.int 0) ∧
    apply .add [.int i64Max, .int 0] = .ok (.int i64Max) ∧
    apply .neg [.int i64Max] = .ok (.int (-i64Max)) ∧
    apply .abs [.int (i64Min + 1)] = .ok (.int i64Max) := by
  refine ⟨?_, ?_, ?_, ?_, ?_, ?_, ?_, ?_, ?_, ?_, ?_⟩ <;> rfl

theorem abs_err_iff (a : Int) (h : i64Min ≤ a ∧ a ≤ i64Max) :
    apply .abs [.int a] = .error .overflow ↔ a = i64Min := by
  show chkInt (if a < 0 then -a else a) = _ ↔ _
  rw [chkInt_err_iff]
  unfold i64Min i64Max at *
  split <;> omega

/-- division and modulo by zero: an error (operators) or NULL (MOD function), never a value -/
theorem div_by_zero_never_value (a : Int) :
    apply .div [.int a, .int 0] = .error .divzero ∧
    apply .rem [.int a, .int 0] = .error .divzero ∧
    apply .mod [.int a, .int 0] = .ok .null :=
  ⟨rfl, rfl, rfl⟩

theorem div_by_zero_float (q : Rat) :
    apply .div [.flt q, .int 0] = .error .divzero ∧ apply .div [.flt q, .flt 0] = .error .divzero :=
  ⟨rfl, rfl⟩

theorem cast_int_text_roundtrip_witness :
    parseIntChars (intChars 0) = some 0 ∧ parseIntChars (intChars (-42)) = some (-42) ∧
    parseIntChars (intChars 9223372036854775807) = some 9223372036854775807 ∧
    parseIntChars ['1', '2', 'a'] = none ∧ parseIntChars [] = none ∧ parseIntChars ['-'] = none := by
  decide

theorem cast_bool_int (b : Bool) :
    apply .castInt [.bool b] = .ok (.int (if b then 1 else 0)) ∧
    apply .castBool [.int (if b then 1 else 0)] = .ok (.bool b) := by
  cases b <;> exact ⟨rfl, rfl⟩

/-- CAST(double AS INT) outside the 64-bit range is an error, not a saturated or wrapped value -/
theorem cast_float_overflow (q : Rat) (h : ¬ (i64Min ≤ truncQ q ∧ truncQ q ≤ i64Max)) :
    apply .castInt [.flt q] = .error .overflow :=
  (chkInt_err_iff _).mpr h

example : substr ['h', 'é', 'l', 'l', 'o'] (-3) none = ['l', 'l', 'o'] ∧
    lpad ['h', 'i'] 5 ['?', '!'] = some ['?', '!', '?', 'h', 'i'] ∧
    rpad ['h', 'i'] 1 ['x'] = some ['h'] ∧ lpad ['a'] (-1) ['x'] = none ∧
    replaceAll ['a', 'b', 'a', 'b', 'a'] ['a', 'b', 'a'] ['X'] = ['X', 'b', 'a'] ∧
    trimBoth [' ', Char.ofNat 160, 'a', ' ', 'b', '\t'] = ['a', ' ', 'b'] ∧
    repeatN ['a', 'b'] 2 = ['a', 'b', 'a', 'b'] ∧ repeatN ['a'] (-1) = [] := by decide

end TurVerif.C20
