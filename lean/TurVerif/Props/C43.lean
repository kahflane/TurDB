import TurVerif.Model.SqlIdx
import TurVerif.Lemmas.Index
import TurVerif.Props.C06
/-!
C43  Bulk-load APIs equal row-at-a-time INSERT.

Spec-level theorems on the relational state machine `TurVerif.SqlDb` (M-spec):
* `batch_eq_fold`: when every row is accepted in turn by a single-row INSERT (the row-at-a-time
  loader `loadSeq` reports no error), one multi-row INSERT (`insertBatch`) ends in exactly the
  state of folding the single-row INSERT over the rows (`foldl insertOne`), including the
  AUTO_INCREMENT counter and the generated ids, and reports the same number of rows;
* the failing case, made precise: a failing statement changes nothing (`insert_fail_noop`,
  `batch_all_or_nothing`), and the row-at-a-time loader the property refers to keeps exactly the
  rows before the first rejected row (`loadSeq_append`, `loadSeq_stops_at_first_error`);
* the `insert_append` precondition made explicit on the index model of C10: appending at the right
  end keeps an index only if the new key is ≥ every key present (`append_refines`), and a smaller
  key breaks the index so that a lookup misses the row (`append_unsorted_counterexample`).
The bulk APIs themselves (batch.rs, fast_load.rs) are not modelled; they are tied to these
statements by the twin-database differential run `sql_bulk` (props/C43.json), which finds nine
independent violations on the pinned tree (known_findings.json).
-/
namespace TurVerif.C43
open TurVerif.Sql TurVerif.SqlDb TurVerif.SqlIdx

/-- `buildInsertRows` reads only the column definitions of the table -/
theorem buildInsertRows_cols (t t' : TableSt) (h : t'.cols = t.cols) (cols : List Nat)
    (rows : List (List Expr)) (n : Int) :
    buildInsertRows t' cols rows n = buildInsertRows t cols rows n := by
  induction rows generalizing n with
  | nil => rfl
  | cons r rest ih =>
    simp only [buildInsertRows, h]
    split
    · rfl
    · simp only [ih]

/-- a batch is the first row followed by the rest, with the counter threaded through -/
theorem buildInsertRows_cons (t : TableSt) (cols : List Nat) (r : List Expr)
    (rest : List (List Expr)) (n : Int) (a : List Row) (n1 : Int)
    (h1 : buildInsertRows t cols [r] n = .ok (a, n1)) :
    buildInsertRows t cols (r :: rest) n =
      match buildInsertRows t cols rest n1 with
      | .error e => .error e
      | .ok (rs, nf) => .ok (a ++ rs, nf) := by
  simp only [buildInsertRows] at h1 ⊢
  split at h1
  · cases h1
  · simp only [Except.ok.injEq, Prod.mk.injEq] at h1
    obtain ⟨rfl, hn⟩ := h1
    rw [hn]
    cases buildInsertRows t cols rest n1 <;> rfl

/-- a failing INSERT changes nothing -/
theorem insert_fail_noop (s : DbState) (tn : String) (cols : List Nat) (rows : List (List Expr))
    (e : Err) (h : (step s (.insert tn cols rows)).2 = .err e) :
    (step s (.insert tn cols rows)).1 = s :=
  C06.err_no_effect s _ e h

/-- the multi-row statement is all-or-nothing -/
theorem batch_all_or_nothing (s : DbState) (tn : String) (cols : List Nat)
    (rows : List (List Expr)) (e : Err) (h : (insertBatch tn cols rows s).2 = .err e) :
    (insertBatch tn cols rows s).1 = s :=
  insert_fail_noop s tn cols rows e h

/-- result of a successful INSERT, in terms of the table found -/
theorem insert_ok (s : DbState) (tn : String) (cols : List Nat) (rows : List (List Expr)) (t : TableSt)
    (hf : s.find tn = some t) (s1 : DbState) (res : Res)
    (h : step s (.insert tn cols rows) = (s1, res)) (hok : isErr res = false) :
    ∃ rs n1, buildInsertRows t cols rows t.nextAuto = .ok (rs, n1) ∧
      s1 = s.put { t with rows := t.rows ++ rs, nextAuto := n1 } ∧ dbValid s1 = .ok true := by
  rw [step_insert s tn cols rows t hf] at h
  split at h
  · cases h; cases hok
  · rename_i rs n1 hb
    rcases applyValid_cases s (s.put { t with rows := t.rows ++ rs, nextAuto := n1 })
      (.affected rs.length rs) with ⟨he, hv⟩ | ⟨e, he⟩ <;> rw [he] at h <;> cases h
    · exact ⟨rs, n1, hb, rfl, hv⟩
    · cases hok

/-- a loader run without error: its first INSERT succeeded and the rest ran without error -/
theorem loadSeq_cons_ok (tn : String) (cols : List Nat) (r : List Expr) (rest : List (List Expr))
    (s s' : DbState) (n : Nat) (h : loadSeq tn cols (r :: rest) s = (s', n, none)) :
    ∃ s1 res m, step s (.insert tn cols [r]) = (s1, res) ∧ isErr res = false ∧
      loadSeq tn cols rest s1 = (s', m, none) ∧ n = m + 1 := by
  simp only [loadSeq] at h
  split at h
  · cases h
  · rename_i s1 res hres hne
    cases hl : loadSeq tn cols rest s1 with
    | mk s2 p =>
      obtain ⟨m, e⟩ := p
      rw [hl] at h
      cases h
      refine ⟨s1, res, m, hne, ?_, hl, rfl⟩
      cases res with
      | err e => exact absurd rfl (hres e)
      | _ => rfl

/-- what such a run has done, in terms of the table found at the start: the rows the batch builds
were appended to it, and the state after the last row is valid -/
theorem loadSeq_ok (tn : String) (cols : List Nat) (r : List Expr) (rest : List (List Expr))
    (s s' : DbState) (n : Nat) (t : TableSt) (hf : s.find tn = some t)
    (h : loadSeq tn cols (r :: rest) s = (s', n, none)) :
    ∃ rs nf, buildInsertRows t cols (r :: rest) t.nextAuto = .ok (rs, nf) ∧
      s' = s.put { t with rows := t.rows ++ rs, nextAuto := nf } ∧ dbValid s' = .ok true := by
  induction rest generalizing s t r n with
  | nil =>
    obtain ⟨s1, res, m, hstep, hok, hl, _⟩ := loadSeq_cons_ok tn cols r [] s s' n h
    cases hl
    exact insert_ok s tn cols [r] t hf s' res hstep hok
  | cons r2 rest' ih =>
    obtain ⟨s1, res, m, hstep, hok, hl, _⟩ := loadSeq_cons_ok tn cols r _ s s' n h
    obtain ⟨a, n1, hb1, rfl, _⟩ := insert_ok s tn cols [r] t hf s1 res hstep hok
    let t1 : TableSt := { t with rows := t.rows ++ a, nextAuto := n1 }
    obtain ⟨rs, nf, hb, rfl, hv⟩ := ih r2 _ m t1 (find_put s tn t t1 hf rfl) hl
    rw [buildInsertRows_cols t t1 rfl] at hb
    have e := (put_put s t1 { t1 with rows := t1.rows ++ rs, nextAuto := nf } rfl).trans
      (congrArg (fun x => s.put { t with rows := x, nextAuto := nf }) (List.append_assoc t.rows a rs))
    exact ⟨a ++ rs, nf, by rw [buildInsertRows_cons t cols r _ _ a n1 hb1, hb], e, e ▸ hv⟩

/-- **C43 core**: if the row-at-a-time loader accepts every row, the one-statement batch ends in
the same state (rows, generated ids, AUTO_INCREMENT counter) and reports all rows -/
theorem batch_eq_loadSeq (tn : String) (cols : List Nat) (r : List Expr) (rest : List (List Expr))
    (s s' : DbState) (n : Nat) (t : TableSt) (hf : s.find tn = some t)
    (h : loadSeq tn cols (r :: rest) s = (s', n, none)) :
    (insertBatch tn cols (r :: rest) s).1 = s' ∧ isErr (insertBatch tn cols (r :: rest) s).2 = false := by
  obtain ⟨rs, nf, hb, rfl, hv⟩ := loadSeq_ok tn cols r rest s s' n t hf h
  rw [insertBatch, step_insert s tn cols _ t hf, hb]
  simp [applyValid_ok s _ hv, isErr]

/-- the loader's state is the fold of the single-row INSERT over the rows it accepted -/
theorem loadSeq_ok_fold (tn : String) (cols : List Nat) (rows : List (List Expr))
    (s s' : DbState) (n : Nat) (h : loadSeq tn cols rows s = (s', n, none)) :
    s' = rows.foldl (insertOne tn cols) s ∧ n = rows.length := by
  induction rows generalizing s n with
  | nil => cases h; exact ⟨rfl, rfl⟩
  | cons r rest ih =>
    obtain ⟨s1, res, m, hstep, _, hl, rfl⟩ := loadSeq_cons_ok tn cols r rest s s' n h
    obtain ⟨i1, rfl⟩ := ih s1 m hl
    exact ⟨by rw [List.foldl_cons, insertOne, hstep]; exact i1, rfl⟩

/-- the equation `insertBatch rows s = foldl insertOne s rows` of DESIGN §5.C43, for a non-empty
batch in which every row is valid when its turn comes (it is false when a row is rejected: the
batch then changes nothing, the fold keeps every row that is accepted) -/
theorem batch_eq_fold (tn : String) (cols : List Nat) (r : List Expr) (rest : List (List Expr))
    (s s' : DbState) (n : Nat) (t : TableSt) (hf : s.find tn = some t)
    (h : loadSeq tn cols (r :: rest) s = (s', n, none)) :
    (insertBatch tn cols (r :: rest) s).1 = (r :: rest).foldl (insertOne tn cols) s := by
  rw [(batch_eq_loadSeq tn cols r rest s s' n t hf h).1]
  exact (loadSeq_ok_fold tn cols (r :: rest) s s' n h).1

/-- what the property demands when some row is rejected: the loader processes a concatenation
left to right and stops at the first error -/
theorem loadSeq_append (tn : String) (cols : List Nat) (xs ys : List (List Expr)) (s : DbState) :
    loadSeq tn cols (xs ++ ys) s =
      match loadSeq tn cols xs s with
      | (s1, n1, none) => let (s2, n2, e) := loadSeq tn cols ys s1; (s2, n1 + n2, e)
      | (s1, n1, some e) => (s1, n1, some e) := by
  induction xs generalizing s with
  | nil =>
    simp only [List.nil_append, loadSeq]
    rcases loadSeq tn cols ys s with ⟨a, c, d⟩
    simp
  | cons x xs ih =>
    simp only [List.cons_append, loadSeq]
    split
    · rfl
    · rename_i s1 res _ _
      rw [ih s1]
      rcases loadSeq tn cols xs s1 with ⟨a, c, _ | e⟩
      · simp only [Nat.add_right_comm _ _ 1]
      · rfl

/-- rows before the first rejected row are loaded, that row and everything after it is not, and
the error is reported: the state is the fold over the accepted prefix -/
theorem loadSeq_stops_at_first_error (tn : String) (cols : List Nat)
    (good : List (List Expr)) (bad : List Expr) (rest : List (List Expr)) (s s1 : DbState) (n : Nat) (e : Err)
    (hgood : loadSeq tn cols good s = (s1, n, none))
    (hbad : (step s1 (.insert tn cols [bad])).2 = .err e) :
    loadSeq tn cols (good ++ bad :: rest) s = (good.foldl (insertOne tn cols) s, good.length, some e) := by
  rw [loadSeq_append, hgood]
  obtain ⟨h1, h2⟩ := loadSeq_ok_fold tn cols good s s1 n hgood
  have : loadSeq tn cols (bad :: rest) s1 = (s1, 0, some e) := by
    simp only [loadSeq]
    split
    · rename_i s2 e2 heq
      rw [heq] at hbad
      simp only [Res.err.injEq] at hbad
      rw [hbad]
    · rename_i s2 res hres heq
      rw [heq] at hbad
      exact absurd hbad (hres e)
  simp only [this, ← h1, h2, Nat.add_zero]

/-! ### the append fast path (`BTree::insert_append`) on the index model -/
open TurVerif.C10 in
/-- within its precondition (new key ≥ every key present) appending at the right end maintains
the index exactly like the ordered insert -/
theorem append_refines {κ : Type} {le : κ → κ → Bool} (keyOf : Row → κ)
    (idx : List (Entry κ)) (tbl : RTable) (h : IsIndex le keyOf idx tbl) (r : Nat × Row)
    (hpre : ∀ x ∈ idx, le x.key (keyOf r.2) = true) :
    IsIndex le keyOf (idx ++ [entryOf keyOf r]) (tbl ++ [r]) := by
  obtain ⟨hs, hp⟩ := h
  refine ⟨?_, ?_⟩
  · refine List.pairwise_append.mpr ⟨hs, List.pairwise_singleton _ _, ?_⟩
    intro a ha b hb
    have : b = entryOf keyOf r := by simpa using hb
    subst this
    exact hpre a ha
  · rw [List.map_append]
    exact List.Perm.append hp (List.Perm.refl _)

/-- outside the precondition the appended entry is out of order and a point lookup through the
"index" misses the row although the table holds it (confirmed on the real code for
`insert_cached`, finding C43-insert-cached-index-append) -/
theorem append_unsorted_counterexample :
    let tbl : RTable := [(1, [.int 5]), (2, [.int 9]), (3, [.int 3])]
    let keyOf : Row → Nat := fun r => match r with | [.int i] => i.toNat | _ => 0
    let idx : List (Entry Nat) := [⟨5, 1⟩, ⟨9, 2⟩] ++ [⟨3, 3⟩]
    (indexLookup Nat.ble (.incl 3) (.incl 3) tbl idx).map (·.1) = [] ∧
    (fullScan Nat.ble keyOf (.incl 3) (.incl 3) tbl).map (·.1) = [3] := by decide

/-! ### non-vacuity -/
/-- a table with PRIMARY KEY + AUTO_INCREMENT, three rows (explicit id, NULL id, NULL id): the
loader accepts all, batch and fold agree, ids 7, 8, 9 are generated after the explicit 7 -/
example :
    let t : TableSt := { name := "t", cols := [{ name := "a", pk := true, autoInc := true }, { name := "b" }] }
    let s : DbState := { tables := [t] }
    let rows : List (List Expr) := [[.lit (.int 7), .lit (.text "x")], [.lit .null, .lit (.text "y")], [.lit .null, .lit .null]]
    ((loadSeq "t" [0, 1] rows s).2 = (3, none)) ∧
    (((insertBatch "t" [0, 1] rows s).1.find "t").map (·.rows) =
      some [[.int 7, .text "x"], [.int 8, .text "y"], [.int 9, .null]]) ∧
    (((rows.foldl (insertOne "t" [0, 1]) s).find "t").map (fun t => (t.rows, t.nextAuto)) =
      some ([[.int 7, .text "x"], [.int 8, .text "y"], [.int 9, .null]], 10)) := by
  decide

end TurVerif.C43
