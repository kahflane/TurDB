import TurVerif.Lemmas.Varint
/-!
C27  Varints round-trip with canonical length.
Theorems about the M-code model `TurVerif.Varint` (transcribed from src/encoding/varint.rs).
-/
namespace TurVerif.C27
open TurVerif.Varint

theorem encode_bytes (v : Nat) : ∀ b ∈ encode v, b < 256 := by
  have m : ∀ x, x % 256 < 256 := fun x => Nat.mod_lt x (by decide)
  refine encode_cases (P := fun _ l => ∀ b ∈ l, b < 256) v ?_ ?_ ?_ ?_ ?_ ?_
  all_goals simp only [List.forall_mem_cons, List.not_mem_nil, false_imp_iff, implies_true, m,
    and_true, Nat.reduceLT]

theorem encode_length (v : Nat) : (encode v).length = len v := by
  refine encode_cases (P := fun n l => l.length = n) v ?_ ?_ ?_ ?_ ?_ ?_
  all_goals intros; rfl

theorem len_canonical (v : Nat) : len v ∈ [1, 2, 3, 4, 5, 9] := by
  refine encode_cases (P := fun n _ => n ∈ [1, 2, 3, 4, 5, 9]) v ?_ ?_ ?_ ?_ ?_ ?_
  all_goals intros; decide

theorem len_mono {a b : Nat} (h : a ≤ b) : len a ≤ len b := Varint.len_mono h

/-- ROUND TRIP (full statement): for every u64 value and any trailing bytes, decoding the
encoding yields the value and consumes exactly `len v` bytes. -/
theorem decode_encode (v : Nat) (hv : v < 2 ^ 64) (rest : List Nat) :
    decode (encode v ++ rest) = .ok v (len v) := by
  refine encode_cases (P := fun n l => decode (l ++ rest) = .ok v n) v ?_ ?_ ?_ ?_ ?_ ?_
  · intro h
    rw [Nat.mod_eq_of_lt (by omega)]; exact dec1 _ _ h
  · intro h h'
    obtain ⟨hm, hle⟩ := marker2 (w := v - 240) (by omega)
    simp only [List.cons_append, List.nil_append, hm]
    rw [dec2 _ _ _ (Nat.le_add_left ..) hle, Nat.add_sub_cancel, Nat.add_assoc, Nat.div_add_mod']
    simp only [Res.ok.injEq, and_true]; omega
  · intro h h'
    simp only [List.cons_append, List.nil_append]
    rw [dec3, Nat.mod_eq_of_lt (Nat.div_lt_of_lt_mul (by omega)), Nat.add_assoc, Nat.div_add_mod']
    simp only [Res.ok.injEq, and_true]; omega
  -- big-endian classes: the top byte is `sh v k` itself, and `x / 256 * 256 + x % 256 = x`
  -- folds the Horner sum up from there
  · intro h h'
    simp only [List.cons_append, List.nil_append]
    rw [dec4, Nat.mod_eq_of_lt (sh_lt (k := 2) (Nat.lt_succ_of_le h'))]
    simp only [sh, Nat.div_add_mod']
  · intro h h'
    simp only [List.cons_append, List.nil_append]
    rw [dec5, Nat.mod_eq_of_lt (sh_lt (k := 3) (Nat.lt_succ_of_le h'))]
    simp only [sh, Nat.div_add_mod']
  · intro h
    simp only [List.cons_append, List.nil_append]
    rw [dec9, Nat.mod_eq_of_lt (sh_lt (k := 7) hv)]
    simp only [sh, Nat.div_add_mod']

/-- non-vacuity: concrete witnesses at each length class -/
example : decode (encode 240) = .ok 240 1 ∧ decode (encode 2287) = .ok 2287 2 ∧
    decode (encode 67823) = .ok 67823 3 ∧ decode (encode 16777215) = .ok 16777215 4 ∧
    decode (encode 4294967295) = .ok 4294967295 5 ∧
    decode (encode 18446744073709551615) = .ok 18446744073709551615 9 := by decide

/-- the encoding is prefix free: no encoding is a proper prefix of another (so a stream of
varints has a unique parse). -/
theorem encode_prefix_free (a b : Nat) (ha : a < 2 ^ 64) (hb : b < 2 ^ 64) (r : List Nat)
    (h : encode a ++ r = encode b) : a = b := by
  have h1 := decode_encode a ha r
  have h2 := decode_encode b hb []
  rw [h] at h1
  rw [List.append_nil, h1] at h2
  injection h2 with h3 _

theorem encode_injective (a b : Nat) (ha : a < 2 ^ 64) (hb : b < 2 ^ 64)
    (h : encode a = encode b) : a = b :=
  encode_prefix_free a b ha hb [] (by rw [List.append_nil, h])

/-- TOTALITY / no read past the input (full statement): for every byte string, decoding is a
value or an error and never the `oob` outcome; on success the consumed count is within the
input and canonical, and the value is a u64. -/
theorem decode_total (buf : List Nat) (hb : ∀ x ∈ buf, x < 256) :
    decode buf ≠ .oob ∧
    (∀ v n, decode buf = .ok v n → n ≤ buf.length ∧ v < 2 ^ 64 ∧ n ∈ [1, 2, 3, 4, 5, 9]) := by
  cases buf with
  | nil => exact ⟨nofun, nofun⟩
  | cons f rest =>
    obtain ⟨h1, h2⟩ := decode_spec hb
    refine ⟨h1, fun v n h => ?_⟩
    obtain ⟨hn, hv, _, hc⟩ := h2 v n h
    exact ⟨hn, hv, hc⟩

/-- reserved markers 252..254 are rejected, whatever follows -/
theorem reserved_rejected (f : Nat) (rest : List Nat) (h1 : 252 ≤ f) (h2 : f ≤ 254) :
    decode (f :: rest) = .err "marker" := by
  show (if f ≤ 240 then _ else _) = _
  rw [if_neg (by omega), if_neg (by omega), if_neg (by omega), if_neg (by omega),
    if_neg (by omega), if_neg (by omega)]

/-- a truncated encoding (any proper prefix of a valid encoding) is an error, not a value -/
theorem truncated_is_error (v : Nat) (hv : v < 2 ^ 64) (k : Nat) (hk : k < len v) :
    ∃ e, decode ((encode v).take k) = .err e := by
  obtain ⟨f, rest, he, hn⟩ := announced_head v
  rw [he]
  cases k with
  | zero => exact ⟨_, rfl⟩
  | succ k =>
    -- a value would have consumed `announced f = len v` bytes, more than the prefix holds
    have hs := decode_spec (f := f) (rest := rest.take k) fun x hx =>
      encode_bytes v x (he ▸ List.take_subset (k + 1) (f :: rest) hx)
    show ∃ e, decode (f :: rest.take k) = .err e
    cases hd : decode (f :: rest.take k) with
    | err e => exact ⟨e, rfl⟩
    | oob => exact absurd hd hs.1
    | ok v' n =>
      have := hs.2 v' n hd
      rw [List.length_cons, List.length_take] at this
      omega

/-- decode `n` varints laid end to end (TurDB itself reads one varint at a time: the value length of a
leaf cell, followed by the value bytes, btree/leaf.rs) -/
def decodeMany : Nat → List Nat → Option (List Nat)
  | 0, _ => some []
  | n + 1, buf =>
    match decode buf with
    | .ok v k => (decodeMany n (buf.drop k)).map (v :: ·)
    | _ => none

/-- STREAM ROUND TRIP: any sequence of u64 values encoded back to back (followed by anything)
decodes, value after value, to exactly that sequence — each decode stops exactly where the next
encoding starts -/
theorem decode_stream (vs : List Nat) (h : ∀ v ∈ vs, v < 2 ^ 64) (rest : List Nat) :
    decodeMany vs.length (vs.flatMap encode ++ rest) = some vs := by
  induction vs with
  | nil => rfl
  | cons v vs ih =>
    have hv : v < 2 ^ 64 := h v (by simp)
    have ih' := ih (fun x hx => h x (by simp [hx]))
    simp only [List.flatMap_cons, List.length_cons, decodeMany, List.append_assoc]
    rw [decode_encode v hv]
    simp only
    rw [← encode_length v, List.drop_left, ih']
    rfl

example : decodeMany 3 ([5, 70000, 2 ^ 63].flatMap encode ++ [1, 2]) = some [5, 70000, 2 ^ 63] :=
  decode_stream [5, 70000, 2 ^ 63] (by decide) [1, 2]

end TurVerif.C27
