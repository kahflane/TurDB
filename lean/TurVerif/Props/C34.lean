import TurVerif.Lemmas.FreelistInv
/-!
C34  The freelist conserves pages.

Theorems about the M-code model `TurVerif.Freelist` (transcribed from src/storage/freelist.rs).
Histories: any interleaving of `release p` (the client gives up a page it owns: `p ≠ 0`, in range,
not currently free), `allocate`, and client writes to pages the client owns (any page that is not
currently free — including page 0, the file-header page).  Ghost state: `g` = pages released and
not handed out since, `a` = pages handed out and not released since.

* pinned code (`allocate`): the full statements are false (`trunk_leak_counterexample`,
  `page0_trunk_counterexample`); proved on the domain "the client keeps bytes 16..24 of page 0
  zero": `alloc_was_released_partial`, `no_double_alloc_partial`, `allocate_terminates_partial`,
  `count_exact_partial` (free_count = obtainable pages + counted trunk pages).
* repaired code (`allocateFixed`, fix_freelist.patch): `Fixed.alloc_was_released`,
  `Fixed.no_double_alloc`, `Fixed.count_exact`, no side condition.
-/
namespace TurVerif.C34
open TurVerif.Freelist

/-! #### pinned code, on the domain `W0` (client keeps bytes 16..24 of page 0 zero) -/

/-- every page `allocate` returns was released and not handed out since -/
theorem alloc_was_released_partial {s g a p} (h : Reach allocate W0 s g a)
    (hr : (allocate s).2 = .page p) : p ∈ g := by
  obtain ⟨ts, hc, hsub⟩ := pinned_reach h
  obtain ⟨ts', -, hs, -⟩ := pinned_allocate hc
  rw [hr] at hs
  exact hsub p (hs.subset (.head _))

/-- … and is not among the pages currently handed out -/
theorem no_double_alloc_partial {s g a p} (h : Reach allocate W0 s g a)
    (hr : (allocate s).2 = .page p) : p ∉ a :=
  fun hm => (ghost_disjoint h).2 p hm (alloc_was_released_partial h hr)

/-- `allocate` neither fails nor runs out of fuel (the recursion ends) -/
theorem allocate_terminates_partial {s g a} (h : Reach allocate W0 s g a) :
    (allocate s).2 ≠ .diverge ∧ (allocate s).2 ≠ .err := by
  obtain ⟨ts, hc, -⟩ := pinned_reach h
  obtain ⟨ts', -, -, ⟨h1, -⟩ | ⟨p, h1, -⟩⟩ := pinned_allocate hc <;>
    rw [h1] <;> exact ⟨nofun, nofun⟩

/-- a drain returns as many pages as the chain has entries -/
theorem drain_pinned {s : St} {ts : List Nat} (hc : CorePinned s ts) :
    ∀ n, entryCount s ts ≤ n → (drain allocate n s).length = entryCount s ts := by
  intro n
  induction n generalizing s ts with
  | zero => exact fun h => (Nat.le_zero.mp h).symm
  | succ n ih =>
    intro hle
    obtain ⟨ts', hc', -, hres⟩ := pinned_allocate hc
    rw [drain]
    rcases hres with ⟨h1, h2⟩ | ⟨p, h1, h2⟩
    · rw [h1, h2]; rfl
    · rw [h1, ← h2]
      exact congrArg (· + 1) (ih hc' (Nat.le_of_succ_le_succ (Nat.le_trans (Nat.le_of_eq h2) hle)))

/-- `free_count` = pages later allocations can return **plus** the trunk pages it counted:
    `e` pages come back from a drain, `k ≥ 1` counted pages never do while a chain exists -/
theorem count_exact_partial {s g a} (h : Reach allocate W0 s g a) :
    ∃ e k, s.freeCount = e + k ∧ (∀ n, e ≤ n → (drain allocate n s).length = e) ∧
      (s.head ≠ 0 → 1 ≤ k) := by
  obtain ⟨ts, hc, -⟩ := pinned_reach h
  obtain ⟨c, hfc⟩ := Nat.exists_eq_add_of_le hc.fc
  refine ⟨entryCount s ts, ts.length + c, ?_, drain_pinned hc, fun hh => ?_⟩
  · rw [hfc, length_items, Nat.add_assoc]
  · obtain ⟨ts', rfl⟩ := Chain_head_ne hc.chain hh
    exact Nat.le_trans (Nat.le_add_left 1 ts'.length) (Nat.le_add_right _ c)

/-- the full `count_exact` is false of the pinned code: one page released, `free_count = 1`,
    and `allocate` returns nothing -/
theorem trunk_leak_counterexample :
    ∃ s g a, Reach allocate W0 s g a ∧ s.freeCount = 1 ∧ g = [5] ∧ (allocate s).2 = .none :=
  ⟨(release (St.init 8) 5).1, [5], [],
    Reach.release 5 (Reach.init 8 (by decide)) (by decide) (by decide) (by simp),
    by decide, rfl, by decide⟩

/-- the full `alloc_was_released` is false of the pinned code once the client's page 0 has a
    non-zero word at bytes 20..24: after `release 5; release 6; allocate (= 6)` the list has
    `head_page = 0, free_count = 1`, and the next `allocate` returns page 7 out of page 0 -/
theorem page0_trunk_counterexample :
    ∃ s g a, Reach allocate (fun _ _ => True) s g a ∧ (allocate s).2 = .page 7 ∧ 7 ∉ g :=
  ⟨_, _, _, Reach.alloc (Reach.release 6 (Reach.release 5 (Reach.write 0 ⟨84, 0, 1, [7]⟩
      (Reach.init 8 (by decide)) nofun trivial) (by decide) (by decide) nofun)
      (by decide) (by decide) (by decide)), by decide, by decide⟩

/-! #### repaired code (fix_freelist.patch): no side condition on the client's pages -/
namespace Fixed

/-- every page `allocate` returns was released and not handed out since -/
theorem alloc_was_released {s g a p} (h : Reach allocateFixed (fun _ _ => True) s g a)
    (hr : (allocateFixed s).2 = .page p) : p ∈ g := by
  obtain ⟨ts, hc, hperm⟩ := fixed_reach h
  obtain ⟨ts', -, hi, -⟩ := fixed_allocate hc
  rw [hr] at hi
  exact hperm.mem_iff.mp (hi ▸ .head _)

/-- … and is not among the pages currently handed out -/
theorem no_double_alloc {s g a p} (h : Reach allocateFixed (fun _ _ => True) s g a)
    (hr : (allocateFixed s).2 = .page p) : p ∉ a :=
  fun hm => (ghost_disjoint h).2 p hm (alloc_was_released h hr)

/-- `allocate` never fails -/
theorem allocate_total {s g a} (h : Reach allocateFixed (fun _ _ => True) s g a) :
    (allocateFixed s).2 = .none ∨ ∃ p, (allocateFixed s).2 = .page p := by
  obtain ⟨ts, hc, -⟩ := fixed_reach h
  obtain ⟨ts', -, -, hres⟩ := fixed_allocate hc
  exact hres.imp And.left id

/-- draining pops the whole stack, top first -/
theorem drain_fixed {s : St} {ts : List Nat} (hc : CoreFixed s ts) :
    ∀ n, s.freeCount ≤ n → drain allocateFixed n s = items s ts := by
  intro n
  induction n generalizing s ts with
  | zero => exact fun hle => (List.eq_nil_of_length_eq_zero (hc.fc ▸ Nat.le_zero.mp hle)).symm
  | succ n ih =>
    intro hle
    obtain ⟨ts', hc', hi, hres⟩ := fixed_allocate hc
    rw [drain]
    rcases hres with ⟨h1, h0⟩ | ⟨p, h1⟩
    · rw [h1]
      exact (List.eq_nil_of_length_eq_zero (hc.fc ▸ h0)).symm
    · rw [h1] at hi ⊢
      have hfc : s.freeCount = (allocateFixed s).1.freeCount + 1 := by rw [hc.fc, hi, hc'.fc]; rfl
      rw [hi]
      exact congrArg (p :: ·) (ih hc' (Nat.le_of_succ_le_succ (Nat.le_trans (Nat.le_of_eq hfc.symm) hle)))

/-- `free_count` is exactly the number of released-and-not-returned pages, and draining the list
    returns exactly those pages (each once) -/
theorem count_exact {s g a} (h : Reach allocateFixed (fun _ _ => True) s g a) :
    s.freeCount = g.length ∧
    ∀ n, s.freeCount ≤ n → (drain allocateFixed n s).Perm g ∧
      (drain allocateFixed n s).length = s.freeCount := by
  obtain ⟨ts, hc, hperm⟩ := fixed_reach h
  refine ⟨hc.fc.trans hperm.length_eq, fun n hn => ?_⟩
  rw [drain_fixed hc n hn]
  exact ⟨hperm, hc.fc.symm⟩

/-- "no page is handed out twice while allocated", over a whole run of allocations: the pages
returned by any number of successive allocations are pairwise distinct, were all released before,
and none of them is currently allocated -/
theorem drain_distinct_unallocated {s g a} (h : Reach allocateFixed (fun _ _ => True) s g a)
    (n : Nat) (hn : s.freeCount ≤ n) :
    (drain allocateFixed n s).Nodup ∧ ∀ p ∈ drain allocateFixed n s, p ∈ g ∧ p ∉ a := by
  have hperm := ((count_exact h).2 n hn).1
  have hg := ghost_disjoint h
  refine ⟨hperm.nodup_iff.mpr hg.1, fun p hp => ?_⟩
  have hpg : p ∈ g := hperm.mem_iff.mp hp
  exact ⟨hpg, fun hpa => hg.2 p hpa hpg⟩

/-- the witness of `trunk_leak_counterexample` behaves correctly after the repair -/
theorem trunk_returned : (allocateFixed (release (St.init 8) 5).1).2 = .page 5 := by decide

end Fixed

/-! #### non-vacuity: a history on the domain `W0` (release 6, release 7, allocate) in which both ghosts
    are non-empty -/
example : ∃ s g a, Reach allocate W0 s g a ∧ g = [6] ∧ a = [7] :=
  ⟨_, _, _, Reach.alloc (Reach.release 7 (Reach.release 6 (Reach.init 9 (by decide))
    (by decide) (by decide) (by simp)) (by decide) (by decide) (by simp)),
    by decide, by decide⟩

end TurVerif.C34
