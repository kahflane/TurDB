import TurVerif.Model.PageLocks
import TurVerif.Model.PageLocksFine
import TurVerif.Lemmas.PageLocksLive
/-!
C36  Page write locks are mutually exclusive.
M-code LTS model `TurVerif.PageLocks` (pinned code: `fixed = false`; repaired `try_cleanup`:
`fixed = true`).

* pinned code: `stale_cleanup_counterexample` (the property is false: two writers of one page).
* repaired code, ALL thread counts / programs / schedules: `page_mutex` (headline), `entry_mutex`,
  `refcount_exact`, `lock_state_exact`, `stake_is_mapped`, `table_empty_at_quiescence`,
  `acquire_enabled_when_free`, `waiting_blocked_only_by_holder`, `no_deadlock`,
  `step_decreases_work`, `all_acquisitions_complete`.
  The steps as a relation: `Lemmas/PageLocksStep.lean`; invariant and its preservation:
  `Lemmas/PageLocks.lean`, `Lemmas/PageLocksInv.lean`; progress: `Lemmas/PageLocksLive.lean`.
-/
namespace TurVerif.C36
open TurVerif.PageLocks

def cexProgs : List (List Op) := [[.write 7, .write 7], [.write 7], [.write 7]]

/-- A locks/unlocks page 7 and drops the entry's ref count to 0 (pauses before the map lock);
B re-uses the same entry, locks/unlocks, also drops it to 0 (pauses); A removes the entry and
write-locks the page again through a NEW entry; B's stale cleanup sees its OLD entry at 0 and
removes the page id from the map — i.e. A's live entry; C then creates a third entry and
write-locks the same page while A still holds it. -/
def cexSched : List Nat :=
  [0, 0, 0, 0, 0,  1, 1, 1, 1, 1,  0, 0, 0, 0,  1,  2, 2, 2]

/-- the full statement is FALSE of the pinned code: two simultaneous writers of page 7 -/
theorem stale_cleanup_counterexample :
    let s := run (init false cexProgs) cexSched
    writersOf s 7 = 2 ∧ pageSafe s 7 = false := by decide

/-- the repaired cleanup keeps the page safe on the same schedule (C is blocked) -/
theorem fixed_same_schedule_safe :
    let s := run (init true cexProgs) cexSched
    writersOf s 7 = 1 ∧ pageSafe s 7 = true := by decide

/-! ### why `get_or_create` must be one step: the non-atomic variant (`PageLocksFine`) -/

def naProgs : List (List Op) := [[.write 7], [.write 7], [.write 7]]

/-- T0 takes the write lock of page 7; T1 finds T0's entry in the map and is pre-empted before the
ref-count increment; T0 unlocks, drops the count to 0 and removes the entry; T1 increments the
count of the orphaned entry and write-locks it; T2 finds no entry, creates a fresh one and
write-locks the same page. -/
def naSched : List Nat := [0, 0, 0,  1, 1,  0, 0, 0,  1, 1,  2, 2, 2]

/-- with the REPAIRED cleanup, but lookup and ref-count increment as two steps (the shard mutex
released in between), the property fails: two simultaneous writers of page 7 -/
theorem nonatomic_get_or_create_counterexample :
    let f := PageLocksFine.frun (PageLocksFine.finit true naProgs) naSched
    writersOf f.s 7 = 2 ∧ pageSafe f.s 7 = false := by decide

/-- on states with no thread inside the window the fine model steps exactly like the coarse one,
except that an existing entry is looked up first (the increment is the next step of that thread) -/
theorem fine_step_no_window (f : PageLocksFine.FState) (tid : Nat) (t : Thread)
    (hp : f.pending = []) (ht : f.s.threads[tid]? = some t)
    (hpc : ∀ p w, t.pc = .getOrCreate p w → lookup f.s.map p = none) :
    PageLocksFine.fstep f tid = (step f.s tid).map (fun s' => { f with s := s' }) := by
  unfold PageLocksFine.fstep
  simp only [hp, List.find?_nil, ht]
  cases hpc' : t.pc with
  | getOrCreate p w => simp only [hpc p w hpc']
  | _ => rfl

theorem invariant_reachable (progs : List (List Op)) (sched : List Nat) :
    Inv (run (init true progs) sched) := inv_reachable progs sched

/-- HEADLINE: for every number of threads, every program and every schedule, every page has at
most one write-lock holder and no write-lock holder together with read-lock holders -/
theorem page_mutex (progs : List (List Op)) (sched : List Nat) (page : Nat) :
    pageSafe (run (init true progs) sched) page = true :=
  pageSafe_of_inv (inv_reachable progs sched) page

theorem page_mutex_explicit (progs : List (List Op)) (sched : List Nat) (page : Nat) :
    let s := run (init true progs) sched
    writersOf s page ≤ 1 ∧ (writersOf s page = 0 ∨ readersOf s page = 0) := by
  have h := page_mutex progs sched page
  simpa [pageSafe] using h

/-- every prefix of the counterexample schedule is safe under the repaired cleanup -/
theorem fixed_all_prefixes_safe :
    (List.range (cexSched.length + 1)).all
      (fun n => pageSafe (run (init true cexProgs) (cexSched.take n)) 7) = true :=
  List.all_eq_true.mpr fun n _ => page_mutex cexProgs (cexSched.take n) 7

/-- the same programs and schedule on the atomic model: T1 holds a counted reference, T0's
cleanup keeps the entry, T2 re-uses it and has to wait -/
theorem atomic_same_schedule_safe :
    let s := run (init true naProgs) naSched
    writersOf s 7 ≤ 1 ∧ pageSafe s 7 = true :=
  ⟨(page_mutex_explicit naProgs naSched 7).1, page_mutex naProgs naSched 7⟩

/-- per lock entry: at most one thread in `held _ e true`, and none together with a thread in
`held _ e false` -/
theorem entry_mutex (progs : List (List Op)) (sched : List Nat) (e : Nat) (en : Entry) :
    let s := run (init true progs) sched
    s.entries[e]? = some en →
      writerCount s e ≤ 1 ∧ (writerCount s e = 0 ∨ readerCount s e = 0) :=
  fun he => entry_mutex_of_inv (inv_reachable progs sched) he

/-- each entry's reference count equals the number of threads holding a stake in it
(`stakeCount s e` = number of threads whose pc is acquire / waiting / held / release on entry `e`) -/
theorem refcount_exact (progs : List (List Op)) (sched : List Nat) (e : Nat) (en : Entry) :
    let s := run (init true progs) sched
    s.entries[e]? = some en → en.refCount = stakeCount s e :=
  fun he => ((inv_reachable progs sched).en e en he).rc

/-- the modelled RwLock state of each entry is exactly the set of guard holders: `writer` iff one
thread is in `held _ e true`, `readers` = number of threads in `held _ e false` -/
theorem lock_state_exact (progs : List (List Op)) (sched : List Nat) (e : Nat) (en : Entry) :
    let s := run (init true progs) sched
    s.entries[e]? = some en →
      writerCount s e = (if en.writer = true then 1 else 0) ∧ readerCount s e = en.readers ∧
      (en.writer = true → en.readers = 0) :=
  fun he => ⟨((inv_reachable progs sched).en e en he).wr, ((inv_reachable progs sched).en e en he).rd,
    ((inv_reachable progs sched).en e en he).ex⟩

/-- every thread with a stake in `(p, e)` goes through the entry the map currently holds for `p`;
in particular an entry that has been removed from the map has no stake holders -/
theorem stake_is_mapped (progs : List (List Op)) (sched : List Nat) (t : Thread) (p e : Nat) :
    let s := run (init true progs) sched
    t ∈ s.threads → stakeOf t.pc = some (p, e) → lookup s.map p = some e :=
  fun ht hs => (inv_reachable progs sched).sk t ht p e hs

/-- the lock table returns to empty when all guards are dropped -/
theorem table_empty_at_quiescence (progs : List (List Op)) (sched : List Nat) :
    let s := run (init true progs) sched
    quiescent s = true → s.map = [] :=
  map_nil_of_quiescent (inv_reachable progs sched)

/-- a property of thread `i` and of all others is a property of all threads -/
theorem forall_mem_of_forall_ne {α : Type} {l : List α} {i : Nat} {a : α} {P : α → Prop}
    (hi : l[i]? = some a) (ha : P a) (h : ∀ j b, j ≠ i → l[j]? = some b → P b) : ∀ b ∈ l, P b := by
  intro b hb
  obtain ⟨j, hj⟩ := List.getElem?_of_mem hb
  by_cases hji : j = i
  · subst hji; cases hi.symm.trans hj; exact ha
  · exact h j b hji hj

/-- enabledness form of "every acquisition eventually succeeds once conflicting holders release":
a thread about to call `lock.read()/write()` always has an enabled step, and a thread parked in the
RwLock's queue on entry `e` has an enabled step (is granted the lock) whenever no OTHER thread holds
a write lock on `e` and — for a write request — no other thread holds a read lock on `e` -/
theorem acquire_enabled_when_free (progs : List (List Op)) (sched : List Nat) (tid : Nat)
    (t : Thread) (p e : Nat) (w : Bool) :
    let s := run (init true progs) sched
    s.threads[tid]? = some t →
      (t.pc = .acquire p e w → (step s tid).isSome = true) ∧
      (t.pc = .waiting p e w →
        (∀ j t' p', j ≠ tid → s.threads[j]? = some t' → t'.pc ≠ .held p' e true) →
        (w = true → ∀ j t' p', j ≠ tid → s.threads[j]? = some t' → t'.pc ≠ .held p' e false) →
        (step s tid).isSome = true) := by
  intro s ht
  have h : Inv s := inv_reachable progs sched
  refine ⟨fun hpc => ?_, fun hpc hnw hnr => ?_⟩
  · exact enabled_of_not_waiting h (evalid_run (evalid_init true progs) sched) ht
      (fun _ _ _ hw => by rw [hpc] at hw; cases hw) (fun hd => by have := hd.1; rw [hpc] at this; cases this)
  · exact waiting_enabled h ht hpc
      (forall_mem_of_forall_ne ht (by rw [hpc]; rfl)
        fun j t' hj hjt => heldW_false_of_ne fun p' => hnw j t' p' hj hjt)
      (fun hw => forall_mem_of_forall_ne ht (by rw [hpc]; rfl)
        fun j t' hj hjt => heldR_false_of_ne fun p' => hnr hw j t' p' hj hjt)

/-- converse: a parked thread is blocked only by an actual conflicting holder on its entry -/
theorem waiting_blocked_only_by_holder (progs : List (List Op)) (sched : List Nat) (tid : Nat)
    (t : Thread) (p e : Nat) (w : Bool) :
    let s := run (init true progs) sched
    s.threads[tid]? = some t → t.pc = .waiting p e w → step s tid = none →
      ∃ j t' p', j ≠ tid ∧ s.threads[j]? = some t' ∧
        (t'.pc = .held p' e true ∨ (w = true ∧ t'.pc = .held p' e false)) := by
  intro s ht hpc hnone
  apply Classical.byContradiction
  intro hc
  have := (acquire_enabled_when_free progs sched tid t p e w ht).2 hpc
    (fun j t' p' hj hjt hp => hc ⟨j, t', p', hj, hjt, Or.inl hp⟩)
    (fun hw j t' p' hj hjt hp => hc ⟨j, t', p', hj, hjt, Or.inr ⟨hw, hp⟩⟩)
  rw [hnone] at this
  cases this

/-- NO DEADLOCK: in every reachable state in which some thread has not finished its program, some
thread has an enabled step (threads hold one page lock at a time in this model) -/
theorem no_deadlock (progs : List (List Op)) (sched : List Nat) :
    let s := run (init true progs) sched
    quiescent s = false → ∃ tid, (step s tid).isSome = true :=
  fun hq => progress_of_inv (inv_reachable progs sched)
    (evalid_run (evalid_init true progs) sched) hq

/-- every enabled step strictly decreases the remaining work `workLeft` (7 per pending operation +
rank of the current pc), for the pinned and the repaired model alike: no execution has more than
`workLeft (init ..)` = 7 × (number of operations) enabled steps -/
theorem step_decreases_work (s s' : State) (tid : Nat) (hs : step s tid = some s') :
    workLeft s' < workLeft s := PageLocks.step_decreases_work hs

/-- every acquisition eventually succeeds / everything completes: every reachable state can be
extended (by at most `workLeft` steps) to a quiescent state, where the lock table is empty.
Together with `no_deadlock` and `step_decreases_work`: EVERY maximal execution ends, after at most
7 × (number of operations) enabled steps, in a quiescent state with an empty table. -/
theorem all_acquisitions_complete (progs : List (List Op)) (sched : List Nat) :
    ∃ sched', let s := run (init true progs) (sched ++ sched')
      quiescent s = true ∧ s.map = [] ∧
      sched'.length ≤ workLeft (run (init true progs) sched) := by
  obtain ⟨sched', h1, h2⟩ := completes_of_inv _ (inv_reachable progs sched)
    (evalid_run (evalid_init true progs) sched) (Nat.lt_succ_self _)
  refine ⟨sched', ?_, ?_, h2⟩
  · rw [run_append]; exact h1
  · rw [run_append]
    exact map_nil_of_quiescent (inv_run (inv_reachable progs sched) sched') h1

/-- non-vacuity of `acquire_enabled_when_free`: thread 1 is parked behind writer 0, then 0 unlocks -/
example :
    let s := run (init true [[.write 7], [.write 7]]) [0, 0, 0, 1, 1, 1]
    (s.threads[1]?.map (·.pc)) = some (.waiting 7 0 true) ∧ step s 1 = none ∧
    (step (run s [0]) 1).isSome = true := by decide

/-- non-vacuity of `table_empty_at_quiescence` -/
example :
    let s := run (init true [[.write 7], [.read 7]]) [0, 0, 0, 1, 1, 1, 0, 0, 1, 0, 1, 1, 1]
    quiescent s = true ∧ s.map = [] ∧ s.entries.length = 1 := by decide

/-- what breaks in the pinned model (`fixed = false`) is `stake_is_mapped` (`StakeOk`): after 15
steps of `cexSched` thread 0 holds page 7 through entry 1, which the map does not point at -/
example :
    let s := run (init false cexProgs) (cexSched.take 15)
    (s.threads[0]?.map (·.pc)) = some (.held 7 1 true) ∧ lookup s.map 7 = none := by decide

end TurVerif.C36
