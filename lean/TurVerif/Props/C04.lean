import TurVerif.Model.PageLog
import TurVerif.Model.SqlMaint
import TurVerif.Lemmas.SqlMaint
import TurVerif.Lemmas.PageLog
/-!
# C04 — close, reopen and checkpoint preserve the logical database

* **Specification** (`TurVerif.SqlMaint` on top of the relational reference model `TurVerif.SqlDb`):
  checkpoints (explicit, PRAGMA, automatic) and configuration statements are the identity, reopen
  is the identity outside a transaction and a ROLLBACK inside one.  `maint_erasable`,
  `reopen_outside_txn_identity`, `reopen_in_txn_is_rollback`.
* **Mechanism** (`TurVerif.PageLog`, M-code of the page store + WAL as the database layer drives
  them).  Two notions: `view` = what queries read (the table file mapping), `logical` = the page
  image a replay of the log produces (`table ⊕ replay(wal)`).
  - `checkpoint_preserves_logical`, `recovery_preserves_logical` (full, every state): applying the
    frames to the table file and truncating the log leaves every logical page unchanged.
  - The *view* is what the property is about, and there the code is NOT unconditionally correct:
    `SharedDatabase::checkpoint` (PRAGMA wal_checkpoint, automatic checkpoint, Drop) replays frames
    over pages that were written since – in place – without a newer frame.
    `checkpoint_preserves_view_partial` (coherent state, no dirty page with an older frame) with
    `checkpoint_in_txn_counterexample` and `checkpoint_after_wal_off_write_counterexample`
    (both reproduced on the real engine, known findings).
  - `safe_history_view_eq_spec`: for every history in which each step satisfies the explicit,
    decidable precondition `safeOp`, with ANY interleaving of flushes, both kinds of checkpoint,
    commits with automatic checkpoints, close/reopen and drop/reopen, every page a reader sees is
    exactly the last value written to it; coherence is an invariant (`coh_reachable`).
  - `reopen_preserves_view`, `reopen_preserves_logical_partial`.
  - `wal_on_off_same_logical`: two safe histories with the same page writes show the same pages,
    whatever their WAL mode / maintenance operations; `autocommit_on_safe` / `wal_off_safe`: the
    two canonical shapes (WAL on + flush after every write; WAL off) with arbitrary maintenance in
    between ARE safe, hence `wal_on_off_same_view_autocommit`.
-/
namespace TurVerif.C04
open TurVerif.PageLog

def writesOf : List Op → List (Key × Nat)
  | [] => []
  | .write k v :: rest => (k, v) :: writesOf rest
  | _ :: rest => writesOf rest

theorem specRun_eq_replay (ops : List Op) : ∀ t, specRun t ops = replay t (writesOf ops) := by
  fun_induction writesOf ops with
  | case1 => intro t; rfl
  | case2 k v rest ih => intro t; exact ih _
  | case3 rest op h ih => intro t; rw [specRun, specStep.eq_2 _ _ h]; exact ih t

theorem writesOf_append (a b : List Op) : writesOf (a ++ b) = writesOf a ++ writesOf b := by
  fun_induction writesOf a with
  | case1 => rfl
  | case2 k v rest ih => exact congrArg ((k, v) :: ·) ih
  | case3 rest op h ih => rw [List.cons_append, writesOf.eq_3 _ _ h, ih]

theorem writesOf_flatMap_nil {α : Type} {f : α → List Op} (hf : ∀ a, writesOf (f a) = [])
    (l : List α) : writesOf (l.flatMap f) = [] := by
  induction l with
  | nil => rfl
  | cons a l ih => rw [List.flatMap_cons, writesOf_append, hf, ih]; rfl

/-- maintenance operations that may follow a statement -/
inductive MOp where
  | ckptShared | ckptDb | commit | reopen | dropReopen
  deriving Repr, DecidableEq

/-- with WAL on, the handle's configuration is re-established after a reopen (it is per handle) -/
def MOp.opsOn : MOp → List Op
  | .ckptShared => [.ckptShared]
  | .ckptDb => [.ckptDb]
  | .commit => [.commit]
  | .reopen => [.reopen, .setWal true]
  | .dropReopen => [.dropReopen, .setWal true]

def MOp.opsOff : MOp → List Op
  | .ckptShared => [.ckptShared]
  | .ckptDb => [.ckptDb]
  | .commit => [.commit]
  | .reopen => [.reopen]
  | .dropReopen => [.dropReopen]

/-- autocommit history with WAL on: every page write is followed by the flush of its table, then
any maintenance operations -/
def autocommitOn : List (Key × Nat × List MOp) → List Op
  | [] => []
  | (k, v, ms) :: rest => .write k v :: .flush k.file :: (ms.flatMap MOp.opsOn ++ autocommitOn rest)

def historyOff : List (Key × Nat × List MOp) → List Op
  | [] => []
  | (k, v, ms) :: rest => .write k v :: (ms.flatMap MOp.opsOff ++ historyOff rest)

/-- state between two autocommit statements with WAL on -/
structure JOn (s : St) : Prop where
  coh : Coh s
  clean : s.dirty = []
  on : s.walOn = true

theorem safeOp_ckptShared_of_clean {s : St} (h : s.dirty = []) : safeOp s .ckptShared = true := by
  show s.dirty.all _ = true; rw [h]; rfl

theorem jOn_mop (m : MOp) : Safe JOn m.opsOn JOn := by
  cases m with
  | ckptShared => exact Safe.single fun s h =>
      ⟨safeOp_ckptShared_of_clean h.clean, coh_ckptShared s, h.clean, h.on⟩
  | ckptDb => exact Safe.single fun s h =>
      ⟨rfl, coh_ckptDb h.coh, dirty_ckptDb s, (walOn_ckptDb s).trans h.on⟩
  | commit => exact Safe.single fun s h =>
      ⟨rfl, coh_commit h.coh, dirty_commit h.on, (walOn_commit s).trans h.on⟩
  | reopen => exact fun s h => ⟨rfl, coh_of_wal_nil rfl, rfl, rfl⟩
  | dropReopen => exact fun s h =>
      ⟨congrArg (· && true) (safeOp_ckptShared_of_clean h.clean), coh_of_wal_nil rfl, rfl, rfl⟩

theorem jOn_write_flush (k : Key) (v : Nat) : Safe JOn [.write k v, .flush k.file] JOn :=
  fun s h => by
  have h1 : safeOp s (.write k v) = true := by show (s.walOn || _) = true; rw [h.on]; rfl
  refine ⟨congrArg (· && true) h1, coh_step (coh_step h.coh _ h1) _ rfl, ?_,
    (walOn_flushFile ..).trans h.on⟩
  -- the page just written is the only dirty one
  refine dirty_flushFile (s := step s (.write k v)) h.on fun q hq => ?_
  have hq : q ∈ (if s.walOn = true then markDirty s.dirty k else s.dirty) := hq
  rw [if_pos h.on, mem_markDirty, h.clean] at hq
  rw [hq.resolve_right List.not_mem_nil]

theorem autocommit_on_safe (h : List (Key × Nat × List MOp)) : Safe JOn (autocommitOn h) JOn := by
  induction h with
  | nil => exact Safe.nil
  | cons e rest ih =>
    exact (jOn_write_flush e.1 e.2.1).append ((Safe.flatMap jOn_mop e.2.2).append ih)

/-- state of a handle that never had the WAL on -/
structure JOff (s : St) : Prop where
  nowal : s.wal = []
  clean : s.dirty = []
  untouched : s.touched = false
  off : s.walOn = false

theorem jOff_mop (m : MOp) : Safe JOff m.opsOff JOff := by
  cases m with
  | ckptShared => exact Safe.single fun s h =>
      ⟨safeOp_ckptShared_of_clean h.clean, rfl, h.clean, h.untouched, h.off⟩
  | ckptDb => exact Safe.single fun s h =>
      ⟨rfl, (congrArg JOff (ckptDb_of_clean h.clean h.untouched)).mpr h⟩
  | commit => exact Safe.single fun s h => ⟨rfl, (congrArg JOff (commit_of_off h.off)).mpr h⟩
  | reopen => exact Safe.single fun s h => ⟨rfl, rfl, rfl, rfl, rfl⟩
  | dropReopen => exact Safe.single fun s h =>
      ⟨safeOp_ckptShared_of_clean h.clean, rfl, rfl, rfl, rfl⟩

theorem jOff_write (k : Key) (v : Nat) : Safe JOff [.write k v] JOff := Safe.single fun s h => by
  refine ⟨?_, h.nowal, ?_, ?_, h.off⟩
  · show (s.walOn || (lastFrame s.wal k).isNone) = true
    rw [h.nowal, h.off]; rfl
  · show (if s.walOn = true then _ else s.dirty) = []
    rw [h.off]; exact h.clean
  · show (s.touched || s.walOn) = false
    rw [h.untouched, h.off]; rfl

theorem wal_off_safe (h : List (Key × Nat × List MOp)) : Safe JOff (historyOff h) JOff := by
  induction h with
  | nil => exact Safe.nil
  | cons e rest ih =>
    exact (jOff_write e.1 e.2.1).append ((Safe.flatMap jOff_mop e.2.2).append ih)

theorem writesOf_opsOn (m : MOp) : writesOf m.opsOn = [] := by cases m <;> rfl

theorem writesOf_opsOff (m : MOp) : writesOf m.opsOff = [] := by cases m <;> rfl

theorem writesOf_autocommitOn (h : List (Key × Nat × List MOp)) :
    writesOf (autocommitOn h) = h.map (fun e => (e.1, e.2.1)) := by
  induction h with
  | nil => rfl
  | cons e rest ih =>
    simp only [autocommitOn, writesOf, writesOf_append, writesOf_flatMap_nil writesOf_opsOn, ih,
      List.nil_append, List.map_cons]

theorem writesOf_historyOff (h : List (Key × Nat × List MOp)) :
    writesOf (historyOff h) = h.map (fun e => (e.1, e.2.1)) := by
  induction h with
  | nil => rfl
  | cons e rest ih =>
    simp only [historyOff, writesOf, writesOf_append, writesOf_flatMap_nil writesOf_opsOff, ih,
      List.nil_append, List.map_cons]

/-- **Checkpoint preserves the logical page image** (every state, every page): applying the WAL
frames to the table file and truncating the WAL leaves `table ⊕ replay(wal)` unchanged. -/
theorem checkpoint_preserves_logical (s : St) (k : Key) : logical (ckptShared s) k = logical s k := rfl

/-- recovery at open (replay + truncate) preserves the logical page image -/
theorem recovery_preserves_logical (s : St) (k : Key) : logical (recover s) k = logical s k := rfl

/-- in a coherent state without dirty pages, what readers see IS the logical image -/
theorem view_eq_logical_of_coh (s : St) (h : Coh s) (hd : s.dirty = []) (k : Key) :
    view s k = logical s k :=
  (logical_eq_view h fun hk => by rw [hd] at hk; cases hk).symm

/-- **Checkpoint preserves what queries read** – on the domain where no page was written in place
after its newest frame without being re-logged. -/
theorem checkpoint_preserves_view_partial (s : St) (h : Coh s) (hd : s.dirty.all (noFrame s) = true)
    (k : Key) : view (ckptShared s) k = view s k :=
  view_ckptShared h hd k

/-- FULL STATEMENT (false of the code): `∀ s k, view (ckptShared s) k = view s k`.
Counterexample 1 – a replaying checkpoint inside a transaction: the page was logged by an earlier
autocommit statement (image 1), written again inside the transaction (image 2, dirty, not flushed
because a transaction is open), `PRAGMA wal_checkpoint` replays image 1 over it. -/
theorem checkpoint_in_txn_counterexample :
    let k : Key := ⟨1, 1⟩
    let s := run {} [.setWal true, .write k 1, .flush 1, .write k 2]
    Coh s ∧ view s k = 2 ∧ view (step s .ckptShared) k = 1 ∧ safeOp s .ckptShared = false := by
  intro k s
  exact ⟨coh_run _ _ (coh_of_wal_nil rfl) (by decide), by decide, by decide, by decide⟩

/-- Counterexample 2 – the WAL is switched off after pages were logged, the pages are written in
place, then a replaying checkpoint (or dropping the handle) brings the logged images back. -/
theorem checkpoint_after_wal_off_write_counterexample :
    let k : Key := ⟨1, 1⟩
    let ops : List Op := [.setWal true, .write k 1, .flush 1, .setWal false, .write k 2]
    view (run {} ops) k = 2 ∧ view (run {} (ops ++ [.ckptShared])) k = 1
      ∧ view (run {} (ops ++ [.dropReopen])) k = 1 ∧ safeRun {} ops = false := by
  decide

/-- **General theorem**: along every safe history – arbitrary interleaving of page writes, table
flushes, WAL switches, threshold changes, both kinds of checkpoint, commits with automatic
checkpoints, close/reopen and drop/reopen – every page a reader sees is exactly the last value
written to it (the meaning of the history for a plain map). -/
theorem safe_history_view_eq_spec (s : St) (ops : List Op) (hc : Coh s) (hs : safeRun s ops = true)
    (k : Key) : view (run s ops) k = rd (specRun s.table ops) k :=
  view_run ops s s.table hc hs (fun _ => rfl) k

/-- coherence is an invariant of safe histories from the empty database -/
theorem coh_reachable (ops : List Op) (hs : safeRun {} ops = true) : Coh (run {} ops) :=
  coh_run ops {} (coh_of_wal_nil rfl) hs

/-- **Close + reopen preserves what queries read** in every coherent state (dirty pages included:
`Database::close` flushes them before the log is truncated). -/
theorem reopen_preserves_view (s : St) (h : Coh s) (k : Key) : view (step s .reopen) k = view s k :=
  view_step h .reopen rfl k

/-- Close + reopen preserves the logical image in a coherent state in which nothing is dirty
(`Database::close` truncates the log without applying it: fine exactly because the table file
already holds every logged page). -/
theorem reopen_preserves_logical_partial (s : St) (h : Coh s) (hd : s.dirty = []) (k : Key) :
    logical (step s .reopen) k = logical s k := by
  -- after the reopen the log is empty, so the logical image there is the view
  show view (step s .reopen) k = logical s k
  exact (reopen_preserves_view s h k).trans (view_eq_logical_of_coh s h hd k)

/-- with a dirty page the log is truncated without being applied: the logical image of that page
changes (to the newer, in-place value) -/
theorem reopen_logical_counterexample :
    let k : Key := ⟨1, 1⟩
    let s := run {} [.setWal true, .write k 1, .flush 1, .write k 2]
    logical s k = 1 ∧ logical (step s .reopen) k = 2 := by decide

/-- dropping the handle without `close` replays the log like a checkpoint: same precondition -/
theorem drop_reopen_preserves_view_partial (s : St) (h : Coh s) (hd : s.dirty.all (noFrame s) = true)
    (k : Key) : view (step s .dropReopen) k = view s k :=
  checkpoint_preserves_view_partial s h hd k

/-- closed form of `safe_history_view_eq_spec`: after a safe history a page shows its last write in
the history, or what it showed before if the history does not write it -/
theorem safe_history_view_eq_lastWrite (s : St) (ops : List Op) (hc : Coh s)
    (hs : safeRun s ops = true) (k : Key) :
    view (run s ops) k = (lastFrame (writesOf ops) k).getD (view s k) := by
  rw [safe_history_view_eq_spec s ops hc hs k, specRun_eq_replay, rd_replay]; rfl

/-- **WAL on/off (and any other configuration / maintenance difference) gives the same pages**:
two safe histories that contain the same page writes, started from states whose tables agree,
end with tables that agree – for every page. -/
theorem wal_on_off_same_logical (s1 s2 : St) (ops1 ops2 : List Op)
    (h1 : Coh s1) (h2 : Coh s2) (hs1 : safeRun s1 ops1 = true) (hs2 : safeRun s2 ops2 = true)
    (ht : ∀ k, rd s1.table k = rd s2.table k) (hw : writesOf ops1 = writesOf ops2) (k : Key) :
    view (run s1 ops1) k = view (run s2 ops2) k := by
  rw [safe_history_view_eq_lastWrite s1 ops1 h1 hs1, safe_history_view_eq_lastWrite s2 ops2 h2 hs2, hw]
  exact congrArg _ (ht k)

/-- the canonical WAL-on shape is safe: WAL on, every page write followed by the flush of its
table (autocommit), then ANY sequence of checkpoints / commits / reopen cycles -/
theorem autocommit_on_safe_from_empty (h : List (Key × Nat × List MOp)) :
    safeRun (step {} (.setWal true)) (autocommitOn h) = true :=
  (autocommit_on_safe h _ ⟨coh_of_wal_nil rfl, rfl, rfl⟩).1

/-- the WAL-off shape is safe: any writes with ANY maintenance operations in between -/
theorem wal_off_safe_from_empty (h : List (Key × Nat × List MOp)) : safeRun {} (historyOff h) = true :=
  (wal_off_safe h _ ⟨rfl, rfl, rfl, rfl⟩).1

/-- **Corollary**: the same statement history run with WAL on (autocommit) and with WAL off, each
with its own arbitrary maintenance operations (`ms1`, `ms2` per statement), shows the same pages. -/
theorem wal_on_off_same_view_autocommit (h1 h2 : List (Key × Nat × List MOp))
    (hw : h1.map (fun e => (e.1, e.2.1)) = h2.map (fun e => (e.1, e.2.1))) (k : Key) :
    view (run (step {} (.setWal true)) (autocommitOn h1)) k = view (run {} (historyOff h2)) k := by
  apply wal_on_off_same_logical _ _ _ _ (coh_of_wal_nil rfl) (coh_of_wal_nil rfl)
    (autocommit_on_safe_from_empty h1) (wal_off_safe_from_empty h2) (fun _ => rfl)
  rw [writesOf_autocommitOn, writesOf_historyOff, hw]

/-- non-vacuity: a safe history with a commit-triggered automatic checkpoint, a reopen and an
explicit checkpoint; the page shows the last write -/
example :
    let k : Key := ⟨1, 3⟩
    let ops : List Op := [.setWal true, .setThreshold 1, .write k 5, .flush 1, .commit, .write k 6,
      .flush 1, .reopen, .setWal true, .write k 7, .flush 1, .ckptShared, .ckptDb]
    safeRun {} ops = true ∧ view (run {} ops) k = 7 := by decide

/-! ### specification level (relational reference model) -/

open TurVerif.SqlMaint TurVerif.SqlDb in
/-- checkpoints and configuration statements can be erased from any history: same statement
results, same final logical database -/
theorem maint_erasable (s : DbState) (items : List Item) (h : ∀ it ∈ items, it.isReopen = false) :
    runItems s items = run s (stmtsOf items) :=
  runItems_eq_run s items h

open TurVerif.SqlMaint TurVerif.SqlDb in
/-- close + reopen outside a transaction is the identity on the logical database -/
theorem reopen_outside_txn_identity (s : DbState) (h : s.txn = []) : maintStep s .reopen = s :=
  maintStep_no_txn s .reopen h

open TurVerif.SqlMaint TurVerif.SqlDb in
/-- close + reopen with an open transaction is exactly ROLLBACK -/
theorem reopen_in_txn_is_rollback (s : DbState) (h : s.txn ≠ []) :
    maintStep s .reopen = (step s .rollback).1 :=
  maintStep_reopen_in_txn s h

end TurVerif.C04
