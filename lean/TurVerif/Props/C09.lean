import TurVerif.Model.SqlCons
import TurVerif.Model.CheckEval
import TurVerif.Lemmas.SqlDb
import TurVerif.Lemmas.SqlBasic
/-!
C09  Declared constraints hold exactly.

Part 1: theorems about the reference state machine `TurVerif.SqlCons` / `TurVerif.SqlDb` (M-spec:
this *is* the definition the property statement refers to): a write succeeds iff its would-be
post-state satisfies every declared constraint; every reachable state is valid; NULL keys never
conflict; CHECK passes on UNKNOWN; a NULL child key passes the FK; after a successful DELETE no
dangling reference remains (cascade or refusal).
Part 2: the M-code model `TurVerif.CheckEval` of the engine's string-matching CHECK evaluator:
what it computes on the shapes it recognises, and machine-checked witnesses where it accepts or
rejects wrongly with respect to the reference semantics.
The executor is tied to Part 1 only by the differential engine `sql_cons`.
-/
namespace TurVerif.C09
open TurVerif.Sql TurVerif.SqlDb TurVerif.SqlCons

def Res.isErr : Res → Bool
  | .err _ => true
  | _ => false

theorem put_txn (s : DbState) (t : TableSt) : (s.put t).txn = s.txn := rfl

theorem cascadeUpdate_txn (s : DbState) (p : String) (ps : List (Row × Row)) :
    (cascadeUpdate s p ps).txn = s.txn := rfl

/-- a write's would-be state keeps the transaction stack, and its result is never an error -/
theorem wouldBe_txn (s s' : DbState) (w : Stmt) (r : Res) (h : wouldBe s w = .ok (s', r)) :
    s'.txn = s.txn ∧ Res.isErr r = false := by
  revert h
  -- the branches that return a state build it with `put` and the two cascades
  fun_cases wouldBe s w <;> intro h <;> cases h <;>
    simp only [cascadeDelete_txn, cascadeUpdate_txn, put_txn, Res.isErr, and_self]

/-- validity depends only on the tables, not on the transaction stack -/
theorem dbValid_congr (s s' : DbState) (h : s.tables = s'.tables) : dbValid s = dbValid s' := by
  have hf : fkOk s = fkOk s' := by funext f r; simp [fkOk, DbState.find, h]
  have ht : tableValid s = tableValid s' := by funext t; simp only [tableValid, hf]
  have hg : ∀ ts, dbValid.go s ts = dbValid.go s' ts := by
    intro ts
    induction ts with
    | nil => rfl
    | cons t rest ih => simp only [dbValid.go, ht, ih]
  rw [dbValid, hg, h, ← dbValid]

/-- **a write succeeds iff the would-be post-state satisfies every declared constraint**
(INSERT, UPDATE incl. ON UPDATE CASCADE, DELETE incl. ON DELETE CASCADE, TRUNCATE) -/
theorem ok_iff_valid (s s' : DbState) (w : Stmt) (r : Res) (hw : isWrite w = true)
    (h : wouldBe s w = .ok (s', r)) :
    Res.isErr (SqlCons.step s w).2 = false ↔ dbValid s' = .ok true := by
  simp only [SqlCons.step, hw, if_true, h]
  by_cases hv : dbValid s' = .ok true
  · simp [applyValid_ok s r hv, hv, (wouldBe_txn s s' w r h).2]
  · obtain ⟨e, he⟩ := applyValid_refused s r hv
    simp [he, hv, Res.isErr]

/-- on success the new state is exactly the would-be state; on refusal the state is unchanged -/
theorem ok_state (s s' : DbState) (w : Stmt) (r : Res) (hw : isWrite w = true)
    (h : wouldBe s w = .ok (s', r)) :
    (dbValid s' = .ok true → SqlCons.step s w = (s', r)) ∧ (dbValid s' ≠ .ok true → (SqlCons.step s w).1 = s) := by
  simp only [SqlCons.step, hw, if_true, h]
  exact ⟨applyValid_ok s r, fun hv => by obtain ⟨e, he⟩ := applyValid_refused s r hv; rw [he]⟩

/-- a write that cannot even be evaluated (unknown table, type error …) changes nothing -/
theorem write_error_no_effect (s : DbState) (w : Stmt) (e : Err) (hw : isWrite w = true)
    (h : wouldBe s w = .error e) : SqlCons.step s w = (s, Res.err e) := by
  simp [SqlCons.step, hw, h]

/-- the state after any write is valid whenever the state before was -/
theorem write_preserves_valid (s : DbState) (w : Stmt) (hw : isWrite w = true)
    (hv : dbValid s = .ok true) : dbValid (SqlCons.step s w).1 = .ok true := by
  simp only [SqlCons.step, hw, if_true]
  split
  · exact hv
  · next s' r _ => rcases applyValid_cases s s' r with ⟨he, hv'⟩ | ⟨e, he⟩ <;> rw [he] <;> assumption

theorem write_txn (s : DbState) (w : Stmt) (hw : isWrite w = true) : (SqlCons.step s w).1.txn = s.txn := by
  simp only [SqlCons.step, hw, if_true]
  split
  · rfl
  · next s' r h =>
    rcases applyValid_cases s s' r with ⟨he, _⟩ | ⟨e, he⟩ <;> rw [he]
    exact (wouldBe_txn s s' w r h).1

/-- DML and transaction statements (the statements C09 quantifies over) -/
def isDmlTxn : Stmt → Bool
  | .insert .. | .update .. | .delete .. | .truncate .. => true
  | .begin | .commit | .rollback | .savepoint _ | .rollbackTo _ | .release _ => true
  | _ => false

def validTables (ts : List TableSt) : Prop := dbValid { tables := ts, txn := [] } = .ok true

/-- the current tables and every snapshot on the transaction stack are valid -/
def Inv (s : DbState) : Prop := dbValid s = .ok true ∧ ∀ e ∈ s.txn, validTables e.2

/-- a state all of whose table lists (current and snapshots) are held by a state satisfying `Inv`,
as its current tables or as one of its snapshots -/
theorem Inv.of_held {s s' : DbState} (hinv : Inv s)
    (ht : s'.tables = s.tables ∨ ∃ e ∈ s.txn, s'.tables = e.2)
    (hx : ∀ e ∈ s'.txn, e.2 = s.tables ∨ e ∈ s.txn) : Inv s' := by
  refine ⟨?_, fun e he => ?_⟩
  · rcases ht with h | ⟨e, he, h⟩
    · rw [dbValid_congr s' s h]; exact hinv.1
    · rw [dbValid_congr s' ⟨e.2, []⟩ h]; exact hinv.2 e he
  · rcases hx e he with h | h
    · rw [validTables, h, ← dbValid_congr s ⟨s.tables, []⟩ rfl]; exact hinv.1
    · exact hinv.2 e h

/-- writes keep validity and the snapshot stack; transaction statements only move the current
tables and the snapshots around -/
theorem step_inv (s : DbState) (st : Stmt) (hst : isDmlTxn st = true) (hinv : Inv s) :
    Inv (SqlCons.step s st).1 := by
  by_cases hw : isWrite st = true
  · exact ⟨write_preserves_valid s st hw hinv.1, by rw [write_txn s st hw]; exact hinv.2⟩
  rw [show SqlCons.step s st = SqlDb.step s st from if_neg hw]
  have hsub := List.dropWhile_sublist (l := s.txn)
  cases st
  case insert | update | delete | truncate => exact absurd rfl hw
  case dropTable | addColumn | dropColumn | renameColumn => exact absurd hst Bool.false_ne_true
  all_goals simp only [SqlDb.step]
  case begin =>
    split
    · exact hinv.of_held (.inl rfl) (by simp)
    · exact hinv
  case commit =>
    split
    · exact hinv
    · exact hinv.of_held (.inl rfl) (by simp)
  case rollback =>
    split
    · exact hinv
    · rename_i nm snap hlast
      exact hinv.of_held (.inr ⟨_, List.mem_of_getLast? hlast, rfl⟩) (by simp)
  case savepoint n =>
    split
    · exact hinv
    · exact hinv.of_held (.inl rfl) fun e he => (List.mem_cons.mp he).imp (congrArg Prod.snd) id
  case rollbackTo n =>
    split
    · exact hinv
    · rename_i m snap rest hd
      have hsub := hd ▸ hsub (fun e => e.1 != n || e.1 == "")
      exact hinv.of_held (.inr ⟨_, hsub.subset (List.mem_cons_self ..), rfl⟩)
        fun e he => .inr (hsub.subset he)
  case release n =>
    split
    · exact hinv
    · rename_i hd rest hdw
      have hsub := hdw ▸ hsub (fun e => e.1 != n || e.1 == "")
      exact hinv.of_held (.inl rfl) fun e he => .inr (hsub.subset (List.mem_cons_of_mem _ he))

/-- **every reachable state satisfies every declared constraint**: from a valid state (with valid
snapshots, e.g. outside a transaction), any history of INSERT / UPDATE / DELETE / TRUNCATE /
BEGIN / COMMIT / ROLLBACK / SAVEPOINT / ROLLBACK TO / RELEASE ends in a valid state -/
theorem reachable_valid (stmts : List Stmt) :
    ∀ (s : DbState), Inv s → stmts.all isDmlTxn = true → Inv (SqlCons.run s stmts).1 := by
  induction stmts with
  | nil => intro s h _; simpa [SqlCons.run] using h
  | cons st rest ih =>
    intro s hinv hall
    simp only [List.all_cons, Bool.and_eq_true] at hall
    simp only [SqlCons.run]
    exact ih _ (step_inv s st hall.1 hinv) hall.2

/-- the headline form: outside a transaction, validity of the start state is enough -/
theorem reachable_valid_no_txn (s : DbState) (stmts : List Stmt) (htxn : s.txn = [])
    (hv : dbValid s = .ok true) (hall : stmts.all isDmlTxn = true) :
    dbValid (SqlCons.run s stmts).1 = .ok true :=
  (reachable_valid stmts s ⟨hv, by intro e he; simp [htxn] at he⟩ hall).1

/-- for INSERT, DELETE and TRUNCATE the C09 machine is the shared `SqlDb.step` (UPDATE differs only
by the ON UPDATE CASCADE action) -/
theorem step_eq_sqldb (s : DbState) (w : Stmt)
    (hw : (match w with | .insert .. | .delete .. | .truncate .. => true | _ => false) = true) :
    SqlCons.step s w = SqlDb.step s w := by
  cases w <;> simp at hw
  -- both machines look the table up and build the new rows in the same way
  all_goals
    simp only [SqlCons.step, isWrite, if_true, wouldBe, SqlDb.step]
    cases s.find _ <;> try rfl
  · rename_i tn cols rows t; dsimp only; cases buildInsertRows t cols rows t.nextAuto <;> rfl
  · rename_i tn whr t; dsimp only; cases splitRows whr t.rows <;> rfl

/-! ### NULLs in keys -/
/-- keys that count as the same agree on containing a NULL (normal forms keep NULL apart) -/
theorem keyHasNull_congr {k k' : List Val} (h : rowSame k k' = true) : keyHasNull k = keyHasNull k' := by
  have hn : ∀ v : Val, v.norm.isNull = v.isNull := fun v => by cases v <;> rfl
  simpa [keyHasNull, List.any_map, Function.comp_def, hn] using
    congrArg (List.any · Val.isNull) ((rowSame_iff k k').mp h)

theorem rowSame_null_key (k k' : List Val) (h : keyHasNull k = false) (h' : keyHasNull k' = true) :
    rowSame k k' = false := by
  cases hs : rowSame k k' with
  | false => rfl
  | true => rw [keyHasNull_congr hs, h'] at h; cases h

/-- **UNIQUE / PRIMARY KEY uniqueness ignores rows with a NULL in the key**: adding such a row (at
either end) never creates a conflict -/
theorem unique_allows_nulls (ix : List Nat) (r : Row) (rows : List Row)
    (hn : keyHasNull (keyOf r ix) = true) :
    uniqueOk ix (r :: rows) = uniqueOk ix rows ∧ uniqueOk ix (rows ++ [r]) = uniqueOk ix rows := by
  constructor
  · simp [uniqueOk, hn]
  · induction rows with
    | nil => simp [uniqueOk, hn]
    | cons x xs ih =>
      simp only [List.cons_append, uniqueOk, ih, List.all_append, List.all_cons, List.all_nil,
        Bool.and_true]
      cases hx : keyHasNull (keyOf x ix) with
      | true => simp
      | false => simp [rowSame_null_key _ _ hx hn]

/-- two rows with the same key conflict as soon as the key is fully non-NULL (non-vacuity) -/
example : uniqueOk [0] [[.int 1, .null], [.int 1, .int 2]] = false ∧
    uniqueOk [1] [[.int 1, .null], [.int 2, .null]] = true := by decide

/-! ### CHECK: UNKNOWN passes -/
/-- a CHECK whose expression evaluates to NULL (UNKNOWN) does not reject the row -/
theorem check_unknown_passes (r : Row) (c : Expr) (cs : List Expr)
    (h : eval r c = .ok .null) : checkOk.go r (c :: cs) = checkOk.go r cs := by
  simp [checkOk.go, h, Val.truth]

theorem check_false_rejects (r : Row) (c : Expr) (cs : List Expr)
    (h : eval r c = .ok (.bool false)) : checkOk.go r (c :: cs) = .ok false := by
  simp [checkOk.go, h, Val.truth]

theorem check_true_continues (r : Row) (c : Expr) (cs : List Expr)
    (h : eval r c = .ok (.bool true)) : checkOk.go r (c :: cs) = checkOk.go r cs := by
  simp [checkOk.go, h, Val.truth]

/-- `CHECK (a > 0)` on a NULL value: the comparison is NULL, the row passes -/
example : checkOk { name := "t", cols := [], checks := [.bin .gt (.col 0) (.lit (.int 0))] } [.null]
    = .ok true := by rfl

/-! ### FOREIGN KEY -/
/-- a child row with a NULL in its foreign-key columns satisfies the constraint whatever the
parent table contains -/
theorem fk_null_child_passes (s : DbState) (f : Fk) (r : Row)
    (h : keyHasNull (keyOf r f.cols) = true) : fkOk s f r = true := by
  simp [fkOk, h]

theorem dbValid_go_mem (s : DbState) : ∀ (ts : List TableSt), dbValid.go s ts = .ok true →
    ∀ t ∈ ts, tableValid s t = .ok true := by
  intro ts
  induction ts with
  | nil => intro _ t ht; cases ht
  | cons x xs ih =>
    intro h t ht
    rw [dbValid.go] at h
    split at h <;> try cases h
    rename_i a b hx hxs
    obtain ⟨rfl, rfl⟩ := Bool.and_eq_true_iff.mp (Except.ok.inj h)
    rcases List.mem_cons.mp ht with rfl | ht
    · exact hx
    · exact ih hxs t ht

/-- in a valid state no row has a dangling reference -/
theorem valid_no_dangling (s : DbState) (hv : dbValid s = .ok true) (t : TableSt) (ht : t ∈ s.tables)
    (f : Fk) (hf : f ∈ t.fks) (r : Row) (hr : r ∈ t.rows) : fkOk s f r = true := by
  have h := dbValid_go_mem s s.tables hv t ht
  simp only [tableValid] at h
  cases hc : rowsCheckOk t t.rows with
  | error e => simp [hc] at h
  | ok c =>
    simp [hc] at h
    exact h.2 f hf r hr

/-- **after a successful DELETE of parent rows no child references a missing parent**: children
of ON DELETE CASCADE keys were removed with the parents, and if a RESTRICT / NO ACTION child still
referenced a deleted key the statement is refused and nothing changes (`ok_iff_valid`, `ok_state`) -/
theorem cascade_removes_children (s : DbState) (p : String) (whr : Option Expr)
    (hv : dbValid s = .ok true) :
    ∀ t ∈ (SqlCons.step s (.delete p whr)).1.tables, ∀ f ∈ t.fks, ∀ r ∈ t.rows,
      fkOk (SqlCons.step s (.delete p whr)).1 f r = true := by
  intro t ht f hf r hr
  exact valid_no_dangling _ (write_preserves_valid s _ rfl hv) t ht f hf r hr

/-- concrete instance: parent p(1),(2); child c(10→1) ON DELETE CASCADE, d(20→2) RESTRICT.
Deleting parent 1 removes child 10; deleting parent 2 is refused and changes nothing. -/
def exDb : DbState :=
  { tables := [
      { name := "p", cols := [{ name := "id", pk := true }], rows := [[.int 1], [.int 2]] },
      { name := "c", cols := [{ name := "id", pk := true }, { name := "pid" }],
        fks := [{ cols := [1], parent := "p", pcols := [0], onDelete := .cascade }], rows := [[.int 10, .int 1]] },
      { name := "d", cols := [{ name := "id", pk := true }, { name := "pid" }],
        fks := [{ cols := [1], parent := "p", pcols := [0], onDelete := .restrict }], rows := [[.int 20, .int 2]] }] }

def delP (k : Int) : Stmt := .delete "p" (some (.bin .eq (.col 0) (.lit (.int k))))

theorem cascade_example :
    (SqlCons.step exDb (delP 1)).1.tables.map (·.rows) = [[[.int 2]], [], [[.int 20, .int 2]]] ∧
    Res.isErr (SqlCons.step exDb (delP 1)).2 = false ∧
    (SqlCons.step exDb (delP 2)).1.tables.map (·.rows) = exDb.tables.map (·.rows) ∧
    Res.isErr (SqlCons.step exDb (delP 2)).2 = true := by
  refine ⟨?_, ?_, ?_, ?_⟩ <;> decide

end TurVerif.C09

/-! ## Part 2: the engine's string-matching CHECK evaluator (M-code model) -/
namespace TurVerif.C09.CE
open TurVerif.CheckEval

/-! ### the four branches of `evalDepth` -/
theorem evalDepth_or (f : Nat) (e col l r : List Char) (v : CVal)
    (h : splitOn [' ', 'o', 'r', ' '] [] (trim e) 0 = some (l, r)) :
    evalDepth (f + 1) e col v =
      (match evalDepth f l col v with
       | none => none
       | some a => match evalDepth f r col v with
         | none => none
         | some b => some (a || b)) := by
  simp [evalDepth, h] <;> rfl

theorem evalDepth_and (f : Nat) (e col l r : List Char) (v : CVal)
    (ho : splitOn [' ', 'o', 'r', ' '] [] (trim e) 0 = none)
    (h : splitOn [' ', 'a', 'n', 'd', ' '] [] (trim e) 0 = some (l, r)) :
    evalDepth (f + 1) e col v =
      (match evalDepth f l col v with
       | none => none
       | some a => match evalDepth f r col v with
         | none => none
         | some b => some (a && b)) := by
  simp [evalDepth, ho, h] <;> rfl

theorem evalDepth_strip (f : Nat) (e col : List Char) (v : CVal)
    (ho : splitOn [' ', 'o', 'r', ' '] [] (trim e) 0 = none)
    (ha : splitOn [' ', 'a', 'n', 'd', ' '] [] (trim e) 0 = none)
    (hs : stripOuterParens (trim e) ≠ trim e) :
    evalDepth (f + 1) e col v = evalDepth f (stripOuterParens (trim e)) col v := by
  simp [evalDepth, ho, ha, hs]

theorem evalDepth_atom (f : Nat) (e col : List Char) (v : CVal)
    (ho : splitOn [' ', 'o', 'r', ' '] [] (trim e) 0 = none)
    (ha : splitOn [' ', 'a', 'n', 'd', ' '] [] (trim e) 0 = none)
    (hs : stripOuterParens (trim e) = trim e) :
    evalDepth (f + 1) e col v = some (evalSimple (trim e) col v) := by
  simp [evalDepth, ho, ha, hs]

/-- the comparison the evaluator recognises: the column is mentioned, the first `<`/`>` operator is
followed by an integer literal in the i64 range -/
theorem evalSimple_cmp (t col after : List Char) (op : Cmp) (thr : Rat) (i : Int)
    (hc : containsIgnoreCase t col = true)
    (hop : findOp t = some (op, after))
    (hnum : extractNum after = some thr)
    (hrange : thr.den = 1 ∧ (i64Min : Rat) ≤ thr ∧ thr ≤ (i64Max : Rat) + 1)
    (hle : thr.num ≤ i64Max) :
    evalSimple t col (.int i) = op.holdsInt i thr.num := by
  have hnot : ¬ thr.num > i64Max := Int.not_lt.mpr hle
  simp [evalSimple, hc, hop, hnum, compareWithThreshold, hrange, hnot]

/-- **the shape the evaluator recognises**: an expression without top-level AND / OR and without
outer parentheses that mentions the column, whose first `<`/`>` operator is followed by an integer
literal in the i64 range, evaluates on an integer value to exactly that comparison -/
theorem check_eval_partial (e col after : List Char) (op : Cmp) (thr : Rat) (i : Int)
    (ho : splitOn [' ', 'o', 'r', ' '] [] (trim e) 0 = none)
    (ha : splitOn [' ', 'a', 'n', 'd', ' '] [] (trim e) 0 = none)
    (hs : stripOuterParens (trim e) = trim e)
    (hc : containsIgnoreCase (trim e) col = true)
    (hop : findOp (trim e) = some (op, after))
    (hnum : extractNum after = some thr)
    (hrange : thr.den = 1 ∧ (i64Min : Rat) ≤ thr ∧ thr ≤ (i64Max : Rat) + 1)
    (hle : thr.num ≤ i64Max) :
    evaluateCheck e col (.int i) = some (op.holdsInt i thr.num) := by
  rw [← evalSimple_cmp (trim e) col after op thr i hc hop hnum hrange hle]
  exact evalDepth_atom 31 e col (.int i) ho ha hs

/-- a NULL (or missing) value passes every CHECK without the expression being looked at -/
theorem check_eval_null (e col : List Char) : evaluateCheck e col .null = some true := rfl

/-- `holdsInt` is the plain integer comparison -/
theorem holdsInt_spec (i k : Int) :
    Cmp.gt.holdsInt i k = decide (k < i) ∧ Cmp.ge.holdsInt i k = decide (k ≤ i) ∧
    Cmp.lt.holdsInt i k = decide (i < k) ∧ Cmp.le.holdsInt i k = decide (i ≤ k) := ⟨rfl, rfl, rfl, rfl⟩

def sGt0 : List Char := ['a', ' ', '>', ' ', '0']
def sRange : List Char := ['a',' ','>','=',' ','0',' ','A','N','D',' ','a',' ','<','=',' ','1','0']
def colA : List Char := ['a']

/-- `CHECK (a > 0)`: correct for every integer -/
theorem check_gt_zero_correct (i : Int) :
    evaluateCheck sGt0 colA (.int i) = some (Cmp.gt.holdsInt i 0) :=
  check_eval_partial sGt0 colA [' ', '0'] .gt 0 i (by decide) (by decide) (by decide)
    (by decide) (by decide) (by decide +kernel) (by decide +kernel) (by decide +kernel)

/-- `CHECK (a >= 0 AND a <= 10)` (stored as `a >= 0 AND a <= 10`): correct for every integer -/
theorem check_range_and_correct (i : Int) :
    evaluateCheck sRange colA (.int i) = some (Cmp.ge.holdsInt i 0 && Cmp.le.holdsInt i 10) := by
  have hl := evalSimple_cmp (trim ['a',' ','>','=',' ','0']) colA [' ', '0'] .ge 0 i
    (by decide) (by decide) (by decide +kernel) (by decide +kernel) (by decide +kernel)
  have hr := evalSimple_cmp (trim ['a',' ','<','=',' ','1','0']) colA [' ', '1', '0'] .le 10 i
    (by decide) (by decide) (by decide +kernel) (by decide +kernel) (by decide +kernel)
  -- the AND is split first; each side is an atom one level deeper
  simp only [evaluateCheck]
  rw [evalDepth_and 31 sRange colA ['a',' ','>','=',' ','0'] ['a',' ','<','=',' ','1','0'] (.int i)
      (by decide) (by decide),
    evalDepth_atom 30 _ colA (.int i) (by decide) (by decide) (by decide),
    evalDepth_atom 30 _ colA (.int i) (by decide) (by decide) (by decide)]
  rw [hl, hr]; rfl

end TurVerif.C09.CE

/-! ### where the string evaluator accepts or rejects wrongly (each confirmed on the real code by
the `sql_cons` engine: scenarios `check-*`, and by the direct M-code correspondence) -/
namespace TurVerif.C09.CE
open TurVerif.CheckEval TurVerif.Sql

private def a : Expr := .col 0
private def n (k : Int) : Expr := .lit (.int k)

/-- `CHECK (a = 5)` rejects the value 5 (no `<`/`>` operator is found → false) -/
theorem check_eq_rejects_counterexample :
    evaluateCheck ['a',' ','=',' ','5'] colA (.int 5) = some false ∧
    eval [.int 5] (.bin .eq a (n 5)) = .ok (.bool true) := ⟨by decide +kernel, rfl⟩

/-- `CHECK (a <> 5)` (stored as `a != 5`) rejects 6 -/
theorem check_ne_rejects_counterexample :
    evaluateCheck ['a',' ','!','=',' ','5'] colA (.int 6) = some false ∧
    eval [.int 6] (.bin .ne a (n 5)) = .ok (.bool true) := ⟨by decide +kernel, rfl⟩

/-- `CHECK (5 < a)` rejects 6: the operand after the operator is not a number -/
theorem check_reversed_rejects_counterexample :
    evaluateCheck ['5',' ','<',' ','a'] colA (.int 6) = some false ∧
    eval [.int 6] (.bin .lt (n 5) a) = .ok (.bool true) := ⟨by decide +kernel, rfl⟩

/-- `CHECK (a + 1 > 3)` is evaluated as `a > 3`: rejects 3 -/
theorem check_arith_rejects_counterexample :
    evaluateCheck ['a',' ','+',' ','1',' ','>',' ','3'] colA (.int 3) = some false ∧
    eval [.int 3] (.bin .gt (.bin .add a (n 1)) (n 3)) = .ok (.bool true) := ⟨by decide +kernel, rfl⟩

/-- `CHECK (NOT (a > 5))` is stored as `NOT a > 5` and evaluated as `a > 5`: accepts 7, rejects 3 -/
theorem check_not_ignored_counterexample :
    evaluateCheck ['N','O','T',' ','a',' ','>',' ','5'] colA (.int 7) = some true ∧
    eval [.int 7] (.not (.bin .gt a (n 5))) = .ok (.bool false) ∧
    evaluateCheck ['N','O','T',' ','a',' ','>',' ','5'] colA (.int 3) = some false ∧
    eval [.int 3] (.not (.bin .gt a (n 5))) = .ok (.bool true) := ⟨by decide +kernel, rfl, by decide +kernel, rfl⟩

/-- `CHECK ((a < 0 OR a > 10) AND a > 5)` is stored without parentheses as
`a < 0 OR a > 10 AND a > 5` and split at the OR first: accepts -1 -/
theorem check_parens_lost_counterexample :
    evaluateCheck ['a',' ','<',' ','0',' ','O','R',' ','a',' ','>',' ','1','0',' ','A','N','D',' ','a',' ','>',' ','5']
      colA (.int (-1)) = some true ∧
    eval [.int (-1)] (.bin .and (.bin .or (.bin .lt a (n 0)) (.bin .gt a (n 10))) (.bin .gt a (n 5)))
      = .ok (.bool false) := ⟨by decide +kernel, rfl⟩

/-- a CHECK on column `a` that compares with another column (`a < b`) rejects every non-NULL value -/
theorem check_other_column_rejects_counterexample :
    evaluateCheck ['a',' ','<',' ','b'] colA (.int 1) = some false ∧
    eval [.int 1, .int 2] (.bin .lt (.col 0) (.col 1)) = .ok (.bool true) := ⟨by decide +kernel, rfl⟩

/-- an expression that does not mention the column name at all is accepted for every value; the
column name is matched as a substring (`ab > 3` "mentions" `a`) -/
theorem check_substring_counterexample :
    evaluateCheck ['x',' ','>',' ','3'] colA (.int 0) = some true ∧
    evaluateCheck ['a','b',' ','>',' ','3'] colA (.int 0) = some false := ⟨by decide +kernel, by decide +kernel⟩

/-! ### redundant parentheses use up the depth budget -/

/-- closing one more parenthesis than `e` leaves open -/
theorem parenScan_close : ∀ (e : List Char) (d d' : Int), 0 ≤ d → parenScan e d = some d' →
    parenScan (e ++ [')']) (d + 1) = some d' := by
  intro e d d'
  fun_induction parenScan e d with
  | case1 d => intro hd h; cases h; simp [parenScan]; omega
  | case2 c cs d h1 ih =>
    intro hd h
    rw [List.cons_append, parenScan, if_pos h1]
    exact ih (by omega) h
  | case3 => intro _ h; cases h
  | case4 c cs d h1 h2 h3 ih =>
    intro hd h
    rw [List.cons_append, parenScan, if_neg h1, if_pos h2, if_neg (by omega), Int.add_sub_cancel,
      ← Int.sub_add_cancel d 1]
    exact ih (by omega) h
  | case5 c cs d h1 h2 ih =>
    intro hd h
    rw [List.cons_append, parenScan, if_neg h1, if_neg h2]
    exact ih hd h

/-- below an open parenthesis that `e` does not close, no operator splits: the scan stays at
depth ≥ 1 up to the closing parenthesis and then reaches the end -/
theorem splitOn_inside (op : List Char) : ∀ (e : List Char) (d d' : Int), parenScan e d = some d' →
    ∀ (n : Nat), d = n → ∀ pre, splitOn op pre (e ++ [')']) (n + 1) = none := by
  intro e d d'
  fun_induction parenScan e d with
  | case1 d => intro _ n _ pre; simp [splitOn]
  | case3 => intro h; cases h
  | case2 c cs d h1 ih =>
    intro h n hn pre
    rw [List.cons_append, splitOn]
    refine ite_eq_left_iff.mpr fun _ => ?_
    rw [if_pos h1]
    exact ih h (n + 1) (by rw [hn]; rfl) _
  | case4 c cs d h1 h2 h3 ih =>
    intro h n hn pre
    rw [List.cons_append, splitOn]
    refine ite_eq_left_iff.mpr fun _ => ?_
    rw [if_neg h1, if_pos h2, if_neg (by simp), Nat.add_sub_cancel]
    cases n with
    | zero => exact absurd (by rw [hn]; decide) h3
    | succ k => exact ih h k (by rw [hn, Int.natCast_succ, Int.add_sub_cancel]) _
  | case5 c cs d h1 h2 ih =>
    intro h n hn pre
    rw [List.cons_append, splitOn]
    refine ite_eq_left_iff.mpr fun _ => ?_
    rw [if_neg h1, if_neg h2, if_neg (by simp)]
    exact ih h n hn _

theorem splitOn_parens (op e : List Char) (d' : Int) (h : parenScan e 0 = some d') :
    splitOn op [] ('(' :: (e ++ [')'])) 0 = none := by
  rw [splitOn]
  refine ite_eq_left_iff.mpr fun _ => ?_
  simp [splitOn_inside op e 0 d' h 0 rfl]

theorem trim_parens (e : List Char) : trim ('(' :: (e ++ [')'])) = '(' :: (e ++ [')']) := by
  simp [trim, trimStart, trimEnd, isWs]

theorem stripOuterParens_parens (e : List Char) (h : parenScan e 0 = some 0) :
    stripOuterParens ('(' :: (e ++ [')'])) = e := by
  simp [stripOuterParens, h]

/-- a balanced expression in one pair of parentheses is the expression, one level deeper -/
theorem evalDepth_parens (f : Nat) (e col : List Char) (v : CVal) (h : parenScan e 0 = some 0) :
    evalDepth (f + 1) ('(' :: (e ++ [')'])) col v = evalDepth f e col v := by
  have hs := stripOuterParens_parens e h
  rw [evalDepth_strip f _ col v, trim_parens, hs]
  · rw [trim_parens]; exact splitOn_parens _ e 0 h
  · rw [trim_parens]; exact splitOn_parens _ e 0 h
  · rw [trim_parens, hs]
    intro he
    have := congrArg List.length he
    simp at this
    omega

/-- `n` pairs of redundant parentheses cost exactly `n` levels of the depth budget -/
theorem evalDepth_nested (col : List Char) (v : CVal) : ∀ (n f : Nat) (e : List Char),
    parenScan e 0 = some 0 →
    evalDepth (f + n) (List.replicate n '(' ++ e ++ List.replicate n ')') col v = evalDepth f e col v := by
  intro n
  induction n with
  | zero => intro f e _; simp
  | succ n ih =>
    intro f e h
    have : List.replicate (n + 1) '(' ++ e ++ List.replicate (n + 1) ')'
        = List.replicate n '(' ++ ('(' :: (e ++ [')'])) ++ List.replicate n ')' := by
      rw [List.replicate_succ', List.replicate_succ]; simp
    rw [this, ← Nat.add_assoc, Nat.add_right_comm, ih (f + 1) _ (parenScan_close e 0 0 (Int.le_refl 0) h),
      evalDepth_parens f e col v h]

/-- more than 31 nested parentheses: the evaluator reports an error instead of a verdict -/
theorem check_depth_error :
    evaluateCheck (List.replicate 32 '(' ++ sGt0 ++ List.replicate 32 ')') colA (.int 1) = none ∧
    evaluateCheck (List.replicate 31 '(' ++ sGt0 ++ List.replicate 31 ')') colA (.int 1) = some true := by
  have hb : parenScan sGt0 0 = some 0 := by decide
  simp only [evaluateCheck]
  refine ⟨evalDepth_nested colA _ 32 0 sGt0 hb, ?_⟩
  rw [evalDepth_nested colA _ 31 1 sGt0 hb]
  decide +kernel

end TurVerif.C09.CE
