import TurVerif.Model.SqlIdx
import TurVerif.Lemmas.Index
/-!
C10  Indexes never change query results.

Spec-level theorems (M-spec `TurVerif.SqlIdx`): an index is a list of `(key, rowid)` entries that
is sorted by the key comparison and is a permutation of the entries the table determines
(`IsIndex`).  For such an index
* the range scan (seek = `dropWhile`, stop = `takeWhile`) returns exactly the entries a filter
  would return (`scanBy_eq_filter`, `scan_eq_filter`);
* the rows fetched through the index are a permutation of the rows the full scan + filter
  returns (`index_scan_eq_filter`), also when the keys are stored encoded and compared as bytes,
  given only that the encoding preserves and reflects the order (`index_scan_eq_filter_enc`,
  hypothesis `enc_monotone` = what C26 proves of the real key encoding);
* the prefix scan loop of `PlanSource::SecondaryIndexScan` (`cursor_seek(prefix)`, advance while
  `starts_with`) over byte keys returns exactly the entries whose key has the prefix
  (`prefix_scan_eq_filter`);
* `derive` produces an index (`derive_isIndex`) and the insert / delete / update maintenance
  steps preserve `IsIndex` (`insert_maintains`, `delete_maintains`, `update_maintains`).
The executor and the B-tree are not modelled here; the engine is tied to these statements by the
twin-database differential run `sql_index` (props/C10.json); the violations it finds on the pinned
engine are the C10 entries of known_findings.json.
-/
namespace TurVerif.C10
open TurVerif.Sql TurVerif.SqlDb TurVerif.SqlIdx

variable {κ : Type}

theorem idxInsert_perm (le : κ → κ → Bool) (e : Entry κ) (l : List (Entry κ)) :
    (idxInsert le e l).Perm (e :: l) := by
  induction l with
  | nil => exact List.Perm.refl _
  | cons x xs ih =>
    simp only [idxInsert]
    split
    · exact List.Perm.refl _
    · exact (List.Perm.cons x ih).trans (List.Perm.swap e x xs)

theorem idxInsert_sorted {le : κ → κ → Bool} (ho : Order le) (e : Entry κ) (l : List (Entry κ))
    (h : Sorted le l) : Sorted le (idxInsert le e l) := by
  induction l with
  | nil => simp [idxInsert, Sorted]
  | cons x xs ih =>
    have hx := List.pairwise_cons.mp h
    simp only [idxInsert]
    split
    · next hle =>
      exact List.pairwise_cons.mpr
        ⟨List.forall_mem_cons.mpr ⟨hle, fun y hy => ho.trans _ _ _ hle (hx.1 y hy)⟩, h⟩
    · next hle =>
      refine List.pairwise_cons.mpr ⟨fun y hy => ?_, ih hx.2⟩
      rcases List.mem_cons.mp ((idxInsert_perm le e xs).mem_iff.mp hy) with rfl | hy
      · exact (ho.total _ _).resolve_left hle
      · exact hx.1 y hy

/-- range scan over a sorted index = filter, for any downward-closed `below` and any `above`
that is upward-closed on the part that is not below -/
theorem scanBy_eq_filter {le : κ → κ → Bool} (below above : κ → Bool)
    (hb : ∀ a b, le a b = true → below b = true → below a = true)
    (ha : ∀ a b, le a b = true → below a = false → above a = true → above b = true)
    (l : List (Entry κ)) (hs : Sorted le l) :
    scanBy below above l = l.filter (fun e => !(below e.key) && !(above e.key)) := by
  rw [scanBy, dropWhile_eq_filter _ l (hs.imp fun h => hb _ _ h), takeWhile_eq_filter, List.filter_filter]
  · apply List.filter_congr; intro e _; exact Bool.and_comm ..
  · refine List.pairwise_filter.mpr (hs.imp fun {a b} h hna _ hb' => ?_)
    cases haa : above a.key with
    | false => rfl
    | true => simp [ha _ _ h (by simpa using hna) haa] at hb'

theorem belowLo_mono {le : κ → κ → Bool} (ho : Order le) (lo : Bound κ) (a b : κ)
    (hab : le a b = true) (h : belowLo le lo b = true) : belowLo le lo a = true := by
  cases lo with
  | unb => cases h
  | incl k =>
    simp only [belowLo, Bool.not_eq_true'] at h ⊢
    exact Bool.eq_false_iff.mpr fun hka => by rw [ho.trans _ _ _ hka hab] at h; cases h
  | excl k => exact ho.trans _ _ _ hab h

theorem aboveHi_mono {le : κ → κ → Bool} (ho : Order le) (hi : Bound κ) (a b : κ)
    (hab : le a b = true) (h : aboveHi le hi a = true) : aboveHi le hi b = true := by
  cases hi with
  | unb => cases h
  | incl k =>
    simp only [aboveHi, Bool.not_eq_true'] at h ⊢
    exact Bool.eq_false_iff.mpr fun hbk => by rw [ho.trans _ _ _ hab hbk] at h; cases h
  | excl k => exact ho.trans _ _ _ h hab

/-- range scan with inclusive / exclusive / open bounds = filter by `inRange` -/
theorem scan_eq_filter {le : κ → κ → Bool} (ho : Order le) (lo hi : Bound κ)
    (l : List (Entry κ)) (hs : Sorted le l) :
    scan le lo hi l = l.filter (fun e => inRange le lo hi e.key) := by
  simp only [scan, inRange]
  exact scanBy_eq_filter _ _ (belowLo_mono ho lo) (fun a b hab _ h => aboveHi_mono ho hi a b hab h) l hs

theorem find_of_mem_nodup (tbl : RTable) (hnd : (tbl.map Prod.fst).Nodup) (r : Nat × Row)
    (hr : r ∈ tbl) : tbl.find? (fun x => x.1 == r.1) = some r := by
  induction tbl with
  | nil => cases hr
  | cons x xs ih =>
    simp only [List.map_cons, List.nodup_cons] at hnd
    rcases List.mem_cons.mp hr with rfl | hr'
    · simp [List.find?]
    · have hne : ¬ x.1 = r.1 := fun h => hnd.1 (List.mem_map.mpr ⟨r, hr', h.symm⟩)
      rw [List.find?_cons_of_neg (by simpa using hne), ih hnd.2 hr']

/-- fetching the row ids of entries made from rows of the table gives those rows back -/
theorem fetch_entries (keyOf : Row → κ) (tbl : RTable) (hnd : (tbl.map Prod.fst).Nodup) (l : RTable)
    (hl : ∀ r ∈ l, r ∈ tbl) : fetch tbl ((l.map (entryOf keyOf)).map (·.rid)) = l := by
  induction l with
  | nil => rfl
  | cons r rs ih =>
    have h1 := find_of_mem_nodup tbl hnd r (hl r (List.mem_cons_self ..))
    have h2 := ih (fun x hx => hl x (List.mem_cons_of_mem _ hx))
    simp only [fetch, List.map_cons, List.filterMap_cons] at h2 ⊢
    rw [show (entryOf keyOf r).rid = r.1 from rfl, h1, h2]

/-- **C10 core**: the rows fetched through any index of the table (point / range scan with any
bounds) are, as a bag, the rows a full scan with the same predicate returns -/
theorem index_scan_eq_filter {le : κ → κ → Bool} (ho : Order le) (keyOf : Row → κ)
    (tbl : RTable) (hnd : (tbl.map Prod.fst).Nodup) (idx : List (Entry κ))
    (hidx : IsIndex le keyOf idx tbl) (lo hi : Bound κ) :
    (indexLookup le lo hi tbl idx).Perm (fullScan le keyOf lo hi tbl) := by
  obtain ⟨hs, hp⟩ := hidx
  rw [indexLookup, scan_eq_filter ho lo hi idx hs]
  have h := ((hp.filter fun e => inRange le lo hi e.key).map (·.rid)).filterMap
    fun rid => tbl.find? (fun r => r.1 == rid)
  rw [List.filter_map] at h
  exact h.trans (.of_eq (fetch_entries keyOf tbl hnd _ fun r hr => (List.mem_filter.mp hr).1))

/-- the same with encoded keys: the index stores `enc (keyOf row)` and compares bytes with `leB`;
if the encoding preserves and reflects the order (`enc_monotone`, property C26 for the real key
encoding) the
index answers the value-level range predicate `inRange leK lo hi` -/
theorem index_scan_eq_filter_enc {β : Type} {leB : β → β → Bool} (ho : Order leB)
    (leK : κ → κ → Bool) (enc : κ → β)
    (enc_monotone : ∀ a b, leB (enc a) (enc b) = leK a b)
    (keyOf : Row → κ) (tbl : RTable) (hnd : (tbl.map Prod.fst).Nodup) (idx : List (Entry β))
    (hidx : IsIndex leB (fun r => enc (keyOf r)) idx tbl) (lo hi : Bound κ) :
    (indexLookup leB (mapBound enc lo) (mapBound enc hi) tbl idx).Perm (fullScan leK keyOf lo hi tbl) := by
  refine (index_scan_eq_filter ho (fun r => enc (keyOf r)) tbl hnd idx hidx _ _).trans (.of_eq ?_)
  simp only [fullScan]
  apply List.filter_congr
  intro r _
  cases lo <;> cases hi <;> simp [inRange, belowLo, aboveHi, mapBound, enc_monotone]

/-! ### maintenance -/
theorem derive_isIndex {le : κ → κ → Bool} (ho : Order le) (keyOf : Row → κ) (tbl : RTable) :
    IsIndex le keyOf (derive le keyOf tbl) tbl := by
  induction tbl with
  | nil => exact ⟨List.Pairwise.nil, List.Perm.refl _⟩
  | cons r rs ih =>
    obtain ⟨hs, hp⟩ := ih
    refine ⟨?_, ?_⟩
    · exact idxInsert_sorted ho _ _ hs
    · exact (idxInsert_perm le _ _).trans (List.Perm.cons _ hp)

/-- INSERT: inserting the new row's entry keeps the index an index of the extended table -/
theorem insert_maintains {le : κ → κ → Bool} (ho : Order le) (keyOf : Row → κ)
    (idx : List (Entry κ)) (tbl : RTable) (h : IsIndex le keyOf idx tbl) (r : Nat × Row) :
    IsIndex le keyOf (idxInsert le (entryOf keyOf r) idx) (tbl ++ [r]) := by
  obtain ⟨hs, hp⟩ := h
  refine ⟨idxInsert_sorted ho _ _ hs, ?_⟩
  refine (idxInsert_perm le _ _).trans ?_
  rw [List.map_append]
  exact ((List.Perm.cons _ hp).trans (List.perm_append_singleton _ _).symm)

/-- DELETE: removing the row's entries keeps the index an index of the reduced table -/
theorem delete_maintains {le : κ → κ → Bool} (keyOf : Row → κ)
    (idx : List (Entry κ)) (tbl : RTable) (h : IsIndex le keyOf idx tbl) (rid : Nat) :
    IsIndex le keyOf (idxDelete rid idx) (tbl.filter (fun r => r.1 != rid)) := by
  obtain ⟨hs, hp⟩ := h
  refine ⟨?_, ?_⟩
  · exact List.Pairwise.sublist List.filter_sublist hs
  · have := hp.filter (fun e => e.rid != rid)
    rw [List.filter_map] at this
    exact this

/-- UPDATE = delete the old entry, insert the new one -/
theorem update_maintains {le : κ → κ → Bool} (ho : Order le) (keyOf : Row → κ)
    (idx : List (Entry κ)) (tbl : RTable) (h : IsIndex le keyOf idx tbl) (rid : Nat) (row' : Row) :
    IsIndex le keyOf (idxInsert le (entryOf keyOf (rid, row')) (idxDelete rid idx))
      (tbl.filter (fun r => r.1 != rid) ++ [(rid, row')]) :=
  insert_maintains ho keyOf _ _ (delete_maintains keyOf idx tbl h rid) (rid, row')

/-- the DML statements as they reach one index of one table -/
inductive IOp where
  | ins (r : Nat × Row)
  | del (rid : Nat)
  | upd (rid : Nat) (row' : Row)

/-- table and index after one statement, each maintained by its own code path -/
def applyIOp (le : κ → κ → Bool) (keyOf : Row → κ) (st : List (Entry κ) × RTable) :
    IOp → List (Entry κ) × RTable
  | .ins r => (idxInsert le (entryOf keyOf r) st.1, st.2 ++ [r])
  | .del rid => (idxDelete rid st.1, st.2.filter (fun r => r.1 != rid))
  | .upd rid row' => (idxInsert le (entryOf keyOf (rid, row')) (idxDelete rid st.1),
      st.2.filter (fun r => r.1 != rid) ++ [(rid, row')])

/-- **index = table after every history**: starting from any table with a correct index (e.g. a
freshly created one, `derive_isIndex`), after ANY sequence of INSERT / DELETE / UPDATE statements
the incrementally maintained index is still exactly an index of the table -/
theorem maintained_any_history {le : κ → κ → Bool} (ho : Order le) (keyOf : Row → κ)
    (ops : List IOp) : ∀ (idx : List (Entry κ)) (tbl : RTable), IsIndex le keyOf idx tbl →
    IsIndex le keyOf (ops.foldl (applyIOp le keyOf) (idx, tbl)).1
      (ops.foldl (applyIOp le keyOf) (idx, tbl)).2 := by
  induction ops with
  | nil => intro idx tbl h; exact h
  | cons op ops ih =>
    intro idx tbl h
    simp only [List.foldl_cons]
    cases op with
    | ins r => exact ih _ _ (insert_maintains ho keyOf idx tbl h r)
    | del rid => exact ih _ _ (delete_maintains keyOf idx tbl h rid)
    | upd rid row' => exact ih _ _ (update_maintains ho keyOf idx tbl h rid row')

/-- CREATE INDEX: a query through the freshly derived index answers like the full scan -/
theorem create_index_no_effect {le : κ → κ → Bool} (ho : Order le) (keyOf : Row → κ)
    (tbl : RTable) (hnd : (tbl.map Prod.fst).Nodup) (lo hi : Bound κ) :
    (indexLookup le lo hi tbl (derive le keyOf tbl)).Perm (fullScan le keyOf lo hi tbl) :=
  index_scan_eq_filter ho keyOf tbl hnd _ (derive_isIndex ho keyOf tbl) lo hi

/-! ### byte keys: lexicographic order and the prefix scan -/
theorem bytesLe_cons (x y : Nat) (xs ys : Bytes) :
    bytesLe (x :: xs) (y :: ys) = true ↔ x < y ∨ x = y ∧ bytesLe xs ys = true := by
  rcases Nat.lt_trichotomy x y with h | rfl | h
  · simp [bytesLe, h]
  · simp [bytesLe]
  · simp [bytesLe, h, Nat.lt_asymm h, Nat.ne_of_gt h]

theorem bytesLe_refl (a : Bytes) : bytesLe a a = true := by
  induction a with
  | nil => rfl
  | cons x xs ih => exact (bytesLe_cons ..).mpr (.inr ⟨rfl, ih⟩)

theorem bytesLe_total (a b : Bytes) : bytesLe a b = true ∨ bytesLe b a = true := by
  induction a generalizing b with
  | nil => left; rfl
  | cons x xs ih =>
    cases b with
    | nil => right; rfl
    | cons y ys =>
      rw [bytesLe_cons, bytesLe_cons]
      rcases Nat.lt_trichotomy x y with h | rfl | h
      · exact .inl (.inl h)
      · exact (ih ys).imp (fun h => .inr ⟨rfl, h⟩) (fun h => .inr ⟨rfl, h⟩)
      · exact .inr (.inl h)

theorem bytesLe_trans (a b c : Bytes) (h1 : bytesLe a b = true) (h2 : bytesLe b c = true) :
    bytesLe a c = true := by
  induction a generalizing b c with
  | nil => rfl
  | cons x xs ih =>
    cases b with
    | nil => cases h1
    | cons y ys =>
      cases c with
      | nil => cases h2
      | cons z zs =>
        rw [bytesLe_cons] at h1 h2 ⊢
        rcases h1 with h1 | ⟨rfl, h1⟩ <;> rcases h2 with h2 | ⟨rfl, h2⟩
        · exact .inl (Nat.lt_trans h1 h2)
        · exact .inl h1
        · exact .inl h2
        · exact .inr ⟨rfl, ih ys zs h1 h2⟩

theorem bytesOrder : Order bytesLe := ⟨bytesLe_total, bytesLe_trans⟩

theorem startsWith_cons (x y : Nat) (xs ys : Bytes) :
    startsWith (x :: xs) (y :: ys) = true ↔ x = y ∧ startsWith xs ys = true := by
  simp [startsWith]

theorem startsWith_le (p k : Bytes) (h : startsWith p k = true) : bytesLe p k = true := by
  induction p generalizing k with
  | nil => rfl
  | cons x xs ih =>
    cases k with
    | nil => cases h
    | cons y ys =>
      rw [startsWith_cons] at h
      exact (bytesLe_cons ..).mpr (.inr ⟨h.1, ih ys h.2⟩)

/-- above the prefix block nothing has the prefix any more -/
theorem not_startsWith_mono (p a b : Bytes) (hpa : bytesLe p a = true)
    (hna : startsWith p a = false) (hab : bytesLe a b = true) : startsWith p b = false := by
  induction p generalizing a b with
  | nil => cases hna
  | cons x xs ih =>
    cases a with
    | nil => cases hpa
    | cons y ys =>
      cases b with
      | nil => rfl
      | cons z zs =>
        rw [bytesLe_cons] at hpa hab
        rw [← Bool.not_eq_true, startsWith_cons] at hna ⊢
        rintro ⟨hxz, hsw⟩
        rcases hpa with h | ⟨hxy, hpa⟩ <;> rcases hab with h' | ⟨hyz, hab⟩
        · omega
        · omega
        · omega
        · have := ih ys zs hpa (by simpa [hxy] using hna) hab
          rw [hsw] at this; cases this

/-- the prefix-scan loop of `PlanSource::SecondaryIndexScan` (seek to the prefix, advance while the
key starts with it) returns exactly the entries whose key has the prefix -/
theorem prefix_scan_eq_filter (p : Bytes) (idx : List (Entry Bytes)) (hs : Sorted bytesLe idx) :
    prefixScan p idx = idx.filter (fun e => startsWith p e.key) := by
  have h := scanBy_eq_filter (le := bytesLe) (fun k => !(bytesLe p k)) (fun k => !(startsWith p k))
    (by
      intro a b hab hb
      simp only [Bool.not_eq_true'] at hb ⊢
      exact Bool.eq_false_iff.mpr fun hpa => by rw [bytesLe_trans _ _ _ hpa hab] at hb; cases hb)
    (by
      intro a b hab hna haa
      simp only [Bool.not_eq_false', Bool.not_eq_true'] at hna haa ⊢
      exact not_startsWith_mono p a b hna haa hab)
    idx hs
  simp only [scanBy, Bool.not_not] at h
  simp only [prefixScan]
  rw [h]
  apply List.filter_congr
  intro e _
  cases hsw : startsWith p e.key with
  | false => simp
  | true => simp [startsWith_le p e.key hsw]

/-! ### the engine's DELETE maintenance (M-code fragment) -/

/-- partial: where the erased key identifies exactly the entries of the deleted row (the format of
unique indexes: key = encoded columns, no row-id suffix, keys distinct), the engine's exact-match
erase is the specified `idxDelete` -/
theorem engine_delete_partial (key : Bytes) (rid : Nat) (idx : List (Entry Bytes))
    (h : ∀ e ∈ idx, (e.key = key ↔ e.rid = rid)) :
    engineDeleteKey key idx = idxDelete rid idx := by
  simp only [engineDeleteKey, idxDelete]
  apply List.filter_congr
  intro e he
  rw [Bool.eq_iff_iff]; simp [h e he]

/-- counterexample (confirmed on the real code, finding C10-delete-leaves-secondary-entries): in a
non-unique index the stored key carries the row-id suffix, the erased key does not, so the entry
stays and the prefix scan for the key still returns the deleted row id -/
theorem engine_delete_leaves_entry_counterexample :
    let idx := engineSecondaryInsert [6, 0, 14] 8 []
    let idx' := engineDeleteKey [6, 0, 14] idx
    (prefixScan [6, 0, 14] idx').map (·.rid) = [8] ∧ (prefixScan [6, 0, 14] (idxDelete 8 idx)).map (·.rid) = [] := by
  decide

/-! ### non-vacuity and the executable instance -/
theorem natOrder : Order Nat.ble := by
  refine ⟨?_, ?_⟩
  · intro a b; simp only [Nat.ble_eq]; omega
  · intro a b c; simp only [Nat.ble_eq]; omega

/-- a concrete table, its derived index and a range query: hypotheses are satisfiable and the
index path returns the rows of the filter path -/
example :
    let tbl : RTable := [(1, [.int 5]), (2, [.int 3]), (3, [.int 5]), (4, [.int 9])]
    let keyOf : Row → Nat := fun r => match r with | [.int i] => i.toNat | _ => 0
    ((indexLookup Nat.ble (.incl 4) (.excl 9) tbl (derive Nat.ble keyOf tbl)).map (·.1) = [1, 3]) ∧
    ((fullScan Nat.ble keyOf (.incl 4) (.excl 9) tbl).map (·.1) = [1, 3]) := by decide

/-- the driver's executable index query agrees with its filter query on a sample with NULL keys,
duplicates and a composite index -/
example :
    let rows : List Row := [[.int 2, .text "b"], [.null, .text "a"], [.int 2, .text "a"], [.int 1, .null], [.int 3, .text "c"]]
    idxQuery rows [0, 1] (.incl (.int 2)) (.incl (.int 2)) = [[.int 2, .text "a"], [.int 2, .text "b"]] ∧
    scanQuery rows [0, 1] (.incl (.int 2)) (.incl (.int 2)) = [[.int 2, .text "b"], [.int 2, .text "a"]] := by
  decide

end TurVerif.C10
