import TurVerif.Model.Wal
import TurVerif.Model.Crc64
import TurVerif.Lemmas.Wal
/-!
C03  WAL replay applies exactly the longest valid frame prefix.

Theorems about the M-code model `TurVerif.Wal` (transcribed from src/storage/wal.rs) and the
M-spec in the same file (`specLog`, `specFault`, `validPrefix`), and about the table-driven
CRC-64/ECMA-182 model `TurVerif.Crc64`.

`fixed = false, zfix = false` is the pinned code; the statement of C03 is FALSE for it (see the
`…_counterexample`-style theorems `reopen_overwrites`, `truncate_then_write_hole`,
`truncate_keeps_buffered`, `zero_hole_replayed`, `gap_across_segments`,
`reopen_hides_earlier_segments`, each confirmed on the real code by the `walfs` engine).
What is true of the pinned code: `replay_create_only` (histories without reopen/truncate),
`replay_total`, `read_page_no_oob`, `final_images`, `faulted_last_segment_prefix`.
With fix_wal_cursor.patch (`fixed = true`): `replay_fixed_all` for ALL histories; for the two cursor
witnesses `reopen_preserves`, `truncate_clean` (from any state), `truncate_then_write_clean`.
With fix_wal_zero_frame.patch (`zfix = true`): `zero_slot_rejected`.  Zero fills are outside
`faulted_last_segment_prefix` for both values of `zfix` (`faultHandled`).
-/
namespace TurVerif.C03
open TurVerif.Wal

section crc
open TurVerif.Crc64

theorem table_get (i : Nat) (h : i < 256) : table[i]! = tableEntry i := by
  simp [table, h]
theorem tableEntry_zero : tableEntry 0 = 0 := by decide
theorem step_zero_zero : Crc64.step 0 0 = 0 := by
  have h : ((((0 : UInt64) >>> 56) ^^^ UInt64.ofNat 0) &&& 255 : UInt64).toNat = 0 := by decide
  unfold Crc64.step
  rw [h, table_get 0 (by decide), tableEntry_zero]; decide
theorem update_zeros (n : Nat) : update 0 (List.replicate n 0) = 0 := by
  unfold update
  induction n with
  | zero => rfl
  | succ n ih => rw [List.replicate_succ, List.foldl_cons, step_zero_zero]; exact ih

end crc

/-- CRC-64/ECMA-182 of any number of zero bytes is 0. -/
theorem crc_zeros (n : Nat) : TurVerif.Crc64.crc (List.replicate n 0) = 0 := update_zeros n

/-- leading zero bytes do not change the checksum (init = 0). -/
theorem crc_leading_zeros (n : Nat) (bs : List Nat) :
    TurVerif.Crc64.crc (List.replicate n 0 ++ bs) = TurVerif.Crc64.crc bs := by
  show TurVerif.Crc64.update 0 (_ ++ bs) = TurVerif.Crc64.update 0 bs
  rw [TurVerif.Crc64.update, List.foldl_append]
  exact congrArg (List.foldl _ · bs) (update_zeros n)

/-- the checksum of the 24 checksummed header bytes + a 16384-byte page, all zero, is the value
stored in the (zero) checksum field: a zero slot passes `validate_checksum` in the pinned code -/
theorem zero_frame_checksum_valid : TurVerif.Crc64.crc (List.replicate (24 + 16384) 0) = 0 :=
  crc_zeros _

/-- REPLAY, histories of create / write / batch / sync-mode / sync / rotate of ANY length, both code
variants: dropping the log and replaying the directory yields exactly the written frames, in
write order (= the longest valid prefix of the log: nothing is damaged). -/
theorem replay_create_only (ops : List Op) (fixed zfix : Bool) (salt : Nat)
    (h : ∀ op ∈ ops, createOnly op = true) :
    (scanDisk zfix (disk (run (create fixed zfix salt) ops))).map Frame.core
      = validPrefix (specLog ops) :=
  replay_of_run ops fixed zfix salt (Or.inl h)

/-- REPLAY with fix_wal_cursor.patch: ALL histories (write, batch, sync modes, rotate, truncate,
drop-and-reopen, in any order and number). -/
theorem replay_fixed_all (ops : List Op) (zfix : Bool) (salt : Nat) :
    (scanDisk zfix (disk (run (create true zfix salt) ops))).map Frame.core
      = validPrefix (specLog ops) :=
  replay_of_run ops true zfix salt (Or.inr rfl)

/-- with the cursor fix, reopening a log and appending preserves every earlier frame -/
theorem reopen_preserves (ops : List Op) (zfix : Bool) (salt s f p d i : Nat) :
    (scanDisk zfix (disk (writeFrame (reopen (run (create true zfix salt) ops) s) f p d i))).map
        Frame.core
      = validPrefix (specLog ops) ++ [⟨f, p, d, i⟩] := by
  obtain ⟨L, hi, hm⟩ := step_InvC _ (.write f p d i) _
    (step_InvC _ (.reopen s) _ (run_create_InvC ops true zfix salt (Or.inr rfl))
      (Or.inr (run_fixed ops _))) (Or.inl rfl)
  exact (congrArg _ (hi.scan zfix)).trans hm

/-- with the cursor fix, `truncate` leaves an empty file with the cursor at 0 and nothing buffered,
from ANY state -/
theorem truncate_clean (w : Wal) (hf : w.fixed = true) :
    disk (truncate w) = [(((truncate w).seq), [])] ∧ (truncate w).file.cursor = 0 ∧
    (truncate w).buf = [] := by
  obtain ⟨a, b, c⟩ := truncate_fixed w hf
  refine ⟨?_, by rw [a], b⟩
  unfold disk diskLive TurVerif.Wal.flush
  rw [b]; simp [c, a]

/-- replay never fails: for ANY directory content (any cells at all), any storage and any file
filter, `recover` / `recover_for_file` return `Ok` and apply exactly the scanned frames that pass
the filter. -/
theorem replay_total (zfix : Bool) (d : List (Nat × List Cell)) (only : Option Nat) (s : Storage) :
    ∃ s', recoverDisk zfix d only s
      = .ok s' ((scanDisk zfix d).filter (keep only)) := by
  obtain ⟨s', h, _⟩ := applyFrames_spec only s (scanDisk zfix d) []
  exact ⟨s', h⟩

/-- `read_page` never slices outside the mapped file -/
theorem read_page_no_oob (w : Wal) (f p : Nat) : readPage w f p ≠ .oob := by
  unfold readPage
  split
  · simp
  · next seg off _ =>
    split
    · simp
    · next cells _ =>
      split
      · next hle =>
        -- behind the length guard the slice is one whole slot, so only the last match is left
        obtain ⟨a, b, c, d, hs⟩ := slice_four cells off hle
        rw [hs]
        simp only
        split <;> simp
      · simp

/-- each page ends with the image of the last frame replayed for it (0 = the zero page when no
replayed frame names the page): `recover` / `recover_for_file` into a fresh storage -/
theorem final_images (zfix : Bool) (d : List (Nat × List Cell)) (only : Option Nat) (s' : Storage)
    (applied : List Frame) (h : recoverDisk zfix d only Storage.fresh = .ok s' applied) (p : Nat) :
    s'.get p = lastImage (applied.map Frame.core) none p := by
  obtain ⟨s2, h2, hget⟩ := applyFrames_spec only Storage.fresh (scanDisk zfix d) []
  rw [recoverDisk, h2] at h
  injection h with hs ha
  subst hs ha
  have h0 : Storage.fresh.get p = 0 := rfl
  rw [hget, h0, List.nil_append, lastImage, List.foldl_map]
  congr 1
  funext a f
  simp [Frame.core]

/-- DAMAGE (partial: the damage is in the NEWEST segment and is a truncation at any cell offset or
a corruption of any cell).  For every cleanly framed directory — older segments `older`, newest
segment `cur`, which by `replay_create_only`'s invariant is every state the pinned code reaches
without reopen/truncate and every state the cursor-fixed code reaches at all — replaying the
damaged directory yields exactly the longest valid prefix of the damaged log.  The full statement
(damage anywhere, zero fills included) is false for the pinned code: `gap_across_segments`,
`gap_across_segments_truncation`, `zero_hole_replayed`. -/
theorem faulted_last_segment_prefix (z : Bool) (d : List (Nat × List Cell))
    (older : List (List Frame)) (cur : List Frame) (φ : Fault)
    (hd : d.map (·.2) = (older ++ [cur]).map cellsOf) (hseg : φ.seg = older.length)
    (hk : faultHandled z φ = true) :
    (scanDisk z (applyFault d φ)).map Frame.core
      = validPrefix (specFault ((older ++ [cur]).map (fun s => s.map (fun f => some f.core))) φ) := by
  obtain ⟨k, X, hr, hsp, hX⟩ := faulted_segment z cur φ hk
  have hlen : ∀ {β : Type} (F : List Frame → β), φ.seg = (older.map F).length :=
    fun F => by rw [List.length_map]; exact hseg
  -- the model side: the older segments whole, then `k` frames of the newest
  rw [scanDisk_eq, applyFault, map_snd_mapNth (fun c => faultCells c φ), hd, List.map_append,
    List.map_cons, List.map_nil, mapNth_last _ _ _ (hlen _), List.flatMap_append,
    flatMap_readAll_cellsOf, List.flatMap_cons, List.flatMap_nil, List.append_nil, hr]
  -- the ideal log: the same entries, then nothing or a damaged one
  refine (validPrefix_somes _ _ X ?_ hX).symm
  have hnl : decide (φ.seg + 1 <
      ((older ++ [cur]).map (fun s => s.map (fun f => some f.core))).length) = false := by
    simp [hseg]
  rw [specFault, hnl, List.map_append, List.map_cons, List.map_nil, mapNth_last _ _ _ (hlen _),
    List.flatten_concat, flatten_somes, hsp, List.map_append, List.map_append, List.append_assoc]
  simp only [List.map_map]
  rfl

/-- every directory the pinned code produces without reopen/truncate, and every directory the
cursor-fixed code produces at all, is cleanly framed (the hypothesis of
`faulted_last_segment_prefix`), and its frames are the log. -/
theorem reachable_disk_framed (ops : List Op) (fixed zfix : Bool) (salt : Nat)
    (hop : (∀ op ∈ ops, createOnly op = true) ∨ fixed = true) :
    ∃ (older : List (List Frame)) (cur : List Frame),
      (disk (run (create fixed zfix salt) ops)).map (·.2) = (older ++ [cur]).map cellsOf ∧
      (older ++ [cur]).flatten.map Frame.core = validPrefix (specLog ops) := by
  obtain ⟨L, hi, hm⟩ := run_create_InvC ops fixed zfix salt hop
  obtain ⟨older, cur, hd, hL⟩ := hi.on_disk
  exact ⟨older, cur, hd, by rw [hL, hm]⟩

/-- non-vacuity: a two-frame segment cut in the middle of its second frame replays one frame -/
example :
    (scanDisk false (applyFault [(1, cellsOf [⟨0, 1, 4, 7, 1⟩, ⟨0, 2, 4, 7, 2⟩])] (.trunc 0 5))).map
        Frame.core = [⟨0, 1, 4, 1⟩] := by
  rw [faulted_last_segment_prefix false _ [] [⟨0, 1, 4, 7, 1⟩, ⟨0, 2, 4, 7, 2⟩] (.trunc 0 5) rfl rfl rfl]
  decide

/-! ### the pinned code violates the statement: concrete witnesses (each reproduced on the real
code by the `walfs` engine; see known_findings.json) -/

/-- what the pinned code replays after the history `ops` (log dropped, directory replayed) -/
def replayedPinned (ops : List Op) : List SFrame :=
  (scanDisk false (disk (run (create false false 1) ops))).map Frame.core

/-- what it replays when the directory is damaged by `φ` first -/
def replayedPinnedFault (ops : List Op) (φ : Fault) : List SFrame :=
  (scanDisk false (applyFault (disk (run (create false false 1) ops)) φ)).map Frame.core

/-- `WalSegment::open` seeks to 0 but `offset = len`: after reopening a two-frame log the appended
frame overwrites frame 0 (replayed: [new, second]; the log is [first, second, new]). -/
theorem reopen_overwrites :
    let ops := [Op.write 0 1 4 1, .write 0 2 4 2, .reopen 2, .write 0 3 4 3]
    replayedPinned ops = [⟨0, 3, 4, 3⟩, ⟨0, 2, 4, 2⟩] ∧
    validPrefix (specLog ops) = [⟨0, 1, 4, 1⟩, ⟨0, 2, 4, 2⟩, ⟨0, 3, 4, 3⟩] := by decide

/-- `truncate` = `set_len(0)` without a seek: the next frame lands at the old cursor, behind a hole
of two zero slots, and the hole is replayed as two frames for page 0 of file 0. -/
theorem truncate_then_write_hole :
    let ops := [Op.write 0 1 4 1, .write 0 2 4 2, .truncate, .write 0 3 4 3]
    replayedPinned ops = [⟨0, 0, 0, 0⟩, ⟨0, 0, 0, 0⟩, ⟨0, 3, 4, 3⟩] ∧
    validPrefix (specLog ops) = [⟨0, 3, 4, 3⟩] ∧
    (run (create false false 1) ops).file = ⟨[.zero, .zero, .zero, .zero, .zero, .zero, .zero, .zero]
      ++ frameCells ⟨0, 3, 4, 1, 3⟩, 12⟩ := by decide

/-- `truncate` flushes the BufWriter AFTER `set_len(0)`: a frame written without sync survives the
truncation and is replayed. -/
theorem truncate_keeps_buffered :
    let ops := [Op.setSync false, .write 0 1 4 1, .truncate]
    replayedPinned ops = [⟨0, 1, 4, 1⟩] ∧ validPrefix (specLog ops) = [] := by decide

/-- a zero-filled slot passes the checksum (CRC of zeros = 0 = stored checksum) and is replayed as a
frame that zeroes page 0 of file 0; replay then continues behind it. -/
theorem zero_hole_replayed :
    let ops := [Op.write 0 0 1 1, .write 0 1 2 2]
    let φ := Fault.zero 0 0 4
    replayedPinnedFault ops φ = [⟨0, 0, 0, 0⟩, ⟨0, 1, 2, 2⟩] ∧
    validPrefix (specFault (specLog ops) φ) = [] := by decide

/-- `recover` reads every segment up to its first bad frame and then goes on with the next segment:
a corrupted frame in segment 1 does not stop the frames of segment 2 from being applied. -/
theorem gap_across_segments :
    let ops := [Op.write 0 1 4 1, .write 0 2 4 2, .rotate, .write 0 1 4 3]
    let φ := Fault.junk 0 0
    replayedPinnedFault ops φ = [⟨0, 1, 4, 3⟩] ∧
    validPrefix (specFault (specLog ops) φ) = [] := by decide

/-- the same for a frame-aligned truncation of an older segment -/
theorem gap_across_segments_truncation :
    let ops := [Op.write 0 1 4 1, .write 0 2 4 2, .rotate, .write 0 1 4 3]
    let φ := Fault.trunc 0 4
    replayedPinnedFault ops φ = [⟨0, 1, 4, 1⟩, ⟨0, 1, 4, 3⟩] ∧
    validPrefix (specFault (specLog ops) φ) = [⟨0, 1, 4, 1⟩] := by decide

/-- `Wal::open` indexes only the newest segment: after a reopen `read_page` no longer finds a page
whose last image lives in an older segment (both code variants). -/
theorem reopen_hides_earlier_segments (fixed : Bool) :
    let ops := [Op.write 0 1 4 1, .rotate, .write 0 2 4 2]
    readPage (run (create fixed false 1) ops) 0 1 = .img 1 ∧
    readPage (reopen (run (create fixed false 1) ops) 2) 0 1 = .absent ∧
    lastImage (validPrefix (specLog ops)) (some 0) 1 = 1 := by
  cases fixed <;> decide

/-! ### the same histories with the fixes applied -/

/-- with the cursor fix the history of `truncate_then_write_hole` replays exactly the log (an instance
of `replay_fixed_all`, evaluated) and leaves no hole in the file -/
theorem truncate_then_write_clean :
    let ops := [Op.write 0 1 4 1, .write 0 2 4 2, .truncate, .write 0 3 4 3]
    (scanDisk false (disk (run (create true false 1) ops))).map Frame.core = [⟨0, 3, 4, 3⟩] ∧
    (run (create true false 1) ops).file = ⟨frameCells ⟨0, 3, 4, 1, 3⟩, 4⟩ := by decide

/-- with the zero-frame fix a zero slot is not a frame: the scan of a segment stops there -/
theorem zero_slot_rejected (rest : List Cell) :
    readAll true (.zero :: .zero :: .zero :: .zero :: rest) = [] := by
  simp [readAll, decodeSlot]

end TurVerif.C03
