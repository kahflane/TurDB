import TurVerif.Model.Mvcc
/-!
C08  Uncommitted changes are isolated from other handles; snapshot reads; no lost update.

* M-spec `TurVerif.Mvcc.SI` (snapshot isolation): `no_dirty_read`, `repeatable_snapshot`,
  `no_lost_update`, invariant `inv_step`.
* M-code: the record-header visibility rule with a commit log is a correct SI reader
  (`visible_rule_refines_SI`); the rule the live scan applies is not (`scan_ignores_lock`).
* M-code of the engine as it is (`Multi`): `dirty_read_counterexample`,
  `lost_update_counterexample`, `rollback_overwrites_counterexample`.
-/
namespace TurVerif.C08
open TurVerif.Mvcc

theorem setTxn_ne (f : Nat → Option Txn) (h h' : Nat) (t : Option Txn) (hne : h ≠ h') :
    setTxn f h' t h = f h := by
  simp [setTxn, hne]

theorem setTxn_eq (f : Nat → Option Txn) (h : Nat) (t : Option Txn) : setTxn f h t h = t := by
  simp [setTxn]

/-- versions committed after the snapshot are invisible to it -/
theorem committedAt_append_newer (new old : List Version) (ts k : Nat)
    (h : ∀ v ∈ new, ts < v.cts) : committedAt (new ++ old) ts k = committedAt old ts k := by
  induction new with
  | nil => rfl
  | cons v vs ih =>
    have hv : ts < v.cts := h v (List.mem_cons_self ..)
    have hn : ¬ (v.key = k ∧ v.cts ≤ ts) := fun ⟨_, h2⟩ => Nat.not_le_of_lt hv h2
    simp only [List.cons_append, committedAt, hn, if_false]
    exact ih (fun w hw => h w (List.mem_cons_of_mem _ hw))

/-- What a statement of handle `h'` may do outside its own transaction record on the way from `s`
to `s'`: the records of the other handles stay, the clock does not go back, and versions are only
added, each with a timestamp above the old clock. -/
def Frame (s : SI) (h' : Nat) (s' : SI) : Prop :=
  (∀ h, h ≠ h' → s'.txns h = s.txns h) ∧ s.clock ≤ s'.clock ∧
    ∃ new, s'.versions = new ++ s.versions ∧ ∀ v ∈ new, s.clock < v.cts

theorem Frame.refl (s : SI) (h' : Nat) : Frame s h' s :=
  ⟨fun _ _ => rfl, Nat.le_refl _, [], rfl, nofun⟩

theorem Frame.setTxn (s : SI) (h' : Nat) (x : Option Txn) :
    Frame s h' { s with txns := setTxn s.txns h' x } :=
  ⟨fun h hne => setTxn_ne _ h h' x hne, Nat.le_refl _, [], rfl, nofun⟩

theorem step_frame (s : SI) (h' : Nat) (op : Op) : Frame s h' (s.step h' op).1 := by
  cases op with
  | begin | rollback =>
    dsimp only [SI.step]
    split
    · exact .refl s h'
    · exact .setTxn s h' _
  | commit =>
    dsimp only [SI.step]
    split
    · exact .refl s h'
    · next t _ =>
      split
      · exact .setTxn s h' _
      · refine ⟨(Frame.setTxn s h' none).1, Nat.le_succ _, _, rfl, fun v hv => ?_⟩
        obtain ⟨w, _, rfl⟩ := List.mem_map.mp hv
        exact Nat.lt_succ_self _
  | write k v =>
    dsimp only [SI.step]
    split
    · exact .setTxn s h' _
    · refine ⟨fun _ _ => rfl, Nat.le_succ _, [_], rfl, fun w hw => ?_⟩
      cases List.mem_singleton.mp hw
      exact Nat.lt_succ_self _

/-! ### the specification -/

/-- **Snapshot reads are repeatable**: while handle `h` has a transaction open, NO statement of
any other handle -- BEGIN, a write inside a transaction, an autocommit write, COMMIT, ROLLBACK --
changes what `h` reads for any key. -/
theorem repeatable_snapshot (s : SI) (hinv : s.Inv) (h h' : Nat) (hne : h ≠ h') (t : Txn)
    (ht : s.txns h = some t) (op : Op) (k : Nat) :
    (s.step h' op).1.read h k = s.read h k := by
  obtain ⟨h1, _, new, h2, h3⟩ := step_frame s h' op
  simp only [SI.read, h1 h hne, ht, h2]
  cases ownWrite t.writes k with
  | some v => rfl
  | none =>
    exact committedAt_append_newer new s.versions t.readTs k
      fun v hv => Nat.lt_of_le_of_lt (hinv h t ht) (h3 v hv)

/-- **No dirty read**: a write made inside another handle's open transaction changes no read of
any other handle, whether that handle is in a transaction or reads in autocommit mode. -/
theorem no_dirty_read (s : SI) (h h' : Nat) (hne : h ≠ h') (t' : Txn) (ht' : s.txns h' = some t')
    (k : Nat) (v : Option Nat) (k' : Nat) :
    (s.step h' (.write k v)).1.read h k' = s.read h k' := by
  simp only [SI.step, ht', SI.read, setTxn, hne, if_false]

/-- a rolled-back transaction leaves no trace for anybody -/
theorem rollback_invisible (s : SI) (h h' : Nat) (hne : h ≠ h') (k' : Nat) :
    (s.step h' .rollback).1.read h k' = s.read h k' := by
  dsimp only [SI.step]
  split
  · rfl
  · simp only [SI.read, setTxn, hne, if_false]

/-- **No lost update** (first committer wins): two open transactions have both written key `k`;
if the first one commits successfully, the commit of the second is refused. -/
theorem no_lost_update (s : SI) (hinv : s.Inv) (h1 h2 : Nat) (hne : h1 ≠ h2) (t1 t2 : Txn)
    (ht1 : s.txns h1 = some t1) (ht2 : s.txns h2 = some t2) (k : Nat) (v1 v2 : Option Nat)
    (hw1 : (k, v1) ∈ t1.writes) (hw2 : (k, v2) ∈ t2.writes)
    (hok : (s.step h1 .commit).2 = .ok) :
    ((s.step h1 .commit).1.step h2 .commit).2 = .conflict := by
  have hts : t2.readTs ≤ s.clock := hinv h2 t2 ht2
  have hne' : h2 ≠ h1 := fun e => hne e.symm
  simp only [SI.step, ht1] at hok ⊢
  split at hok
  · cases hok
  · rename_i hc
    simp only [hc, Bool.false_eq_true, if_false, setTxn, hne', ht2]
    have hconf : conflicts (commitVersions t1.writes (s.clock + 1) ++ s.versions) t2.readTs t2.writes
        = true := by
      simp only [conflicts, List.any_eq_true]
      refine ⟨(k, v2), hw2, ?_⟩
      refine ⟨{ key := k, val := v1, cts := s.clock + 1 }, ?_, ?_⟩
      · apply List.mem_append_left
        simp only [commitVersions, List.mem_map]
        exact ⟨(k, v1), hw1, rfl⟩
      · simp only [decide_eq_true_eq]
        exact ⟨trivial, by omega⟩
    simp [hconf]

theorem inv_init : ({} : SI).Inv := by
  intro h t ht
  cases ht

/-- the invariant "no snapshot lies in the future" is preserved by every statement -/
theorem inv_step (s : SI) (hinv : s.Inv) (h' : Nat) (op : Op) : (s.step h' op).1.Inv := by
  intro h t ht
  obtain ⟨hother, hclock, _⟩ := step_frame s h' op
  refine Nat.le_trans ?_ hclock
  by_cases hh : h = h'
  · -- the handle's own record: unchanged, dropped, opened at the clock, or extended by a write
    subst hh
    cases op with
    | begin =>
      simp only [SI.step] at ht
      split at ht
      · exact hinv h t ht
      · simp only [setTxn_eq, Option.some.injEq] at ht; subst ht; exact Nat.le_refl _
    | rollback =>
      simp only [SI.step] at ht
      split at ht
      · exact hinv h t ht
      · simp only [setTxn_eq] at ht; cases ht
    | commit =>
      simp only [SI.step] at ht
      split at ht
      · exact hinv h t ht
      · split at ht <;> (simp only [setTxn_eq] at ht; cases ht)
    | write k v =>
      simp only [SI.step] at ht
      split at ht
      · next t0 ht0 =>
        simp only [setTxn_eq, Option.some.injEq] at ht; subst ht; exact hinv h t0 ht0
      · next hn => rw [hn] at ht; cases ht
  · rw [hother h hh] at ht
    exact hinv h t ht

/-- every state reachable from the empty database by ANY interleaving of statements of any handles -/
def reach (ops : List (Nat × Op)) : SI := ops.foldl (fun s hop => (s.step hop.1 hop.2).1) {}

theorem inv_reachable (ops : List (Nat × Op)) : (reach ops).Inv :=
  List.foldlRecOn ops _ inv_init fun s hs hop _ => inv_step s hs hop.1 hop.2

/-- **No lost update after every history**: `no_lost_update` without the invariant hypothesis -/
theorem no_lost_update_reachable (ops : List (Nat × Op)) (h1 h2 : Nat) (hne : h1 ≠ h2)
    (t1 t2 : Txn) (ht1 : (reach ops).txns h1 = some t1) (ht2 : (reach ops).txns h2 = some t2)
    (k : Nat) (v1 v2 : Option Nat) (hw1 : (k, v1) ∈ t1.writes) (hw2 : (k, v2) ∈ t2.writes)
    (hok : ((reach ops).step h1 .commit).2 = .ok) :
    (((reach ops).step h1 .commit).1.step h2 .commit).2 = .conflict :=
  no_lost_update (reach ops) (inv_reachable ops) h1 h2 hne t1 t2 ht1 ht2 k v1 v2 hw1 hw2 hok

/-- non-vacuity: two transactions that both wrote key 1; the first commit succeeds -/
example :
    let s0 : SI := {}
    let s1 := (s0.step 9 (.write 1 (some 10))).1
    let s2 := (s1.step 0 .begin).1
    let s3 := (s2.step 1 .begin).1
    let s4 := (s3.step 0 (.write 1 (some 11))).1
    let s5 := (s4.step 1 (.write 1 (some 12))).1
    (s5.step 0 .commit).2 = .ok ∧ ((s5.step 0 .commit).1.step 1 .commit).2 = .conflict ∧
      s5.read 1 1 = some 12 ∧ s5.read 0 1 = some 11 ∧ s5.read 2 1 = some 10 := by decide

/-! ### the visibility rules of the code -/

/-- **The header rule with a commit log is a correct snapshot reader**: a record is visible to a
snapshot exactly when its writer's commit timestamp (its own timestamp when the record is not
locked, the commit-log entry when it is) exists and is ≤ the snapshot, and the record is not a
tombstone.  In particular a locked record without a commit-log entry -- an uncommitted write --
is never visible. -/
theorem visible_rule_refines_SI (h : Hdr) (readTs : Nat) (clog : Nat → Option Nat) :
    isVisibleWithClog h readTs clog = .visible ↔
      ∃ eff, (if h.locked then clog h.txnId else some h.txnId) = some eff ∧ eff ≤ readTs ∧
        h.deleted = false := by
  unfold isVisibleWithClog
  cases hc : (if h.locked then clog h.txnId else some h.txnId) with
  | none => simp
  | some eff =>
    simp only [Option.some.injEq, exists_eq_left']
    by_cases h1 : eff > readTs
    · simp only [h1, if_true]
      constructor
      · intro h; cases h
      · intro ⟨h2, _⟩; omega
    · simp only [h1, if_false]
      cases hd : h.deleted with
      | true => simp
      | false => simp; omega

/-- the case singled out in the docstring of `visible_rule_refines_SI` -/
theorem uncommitted_invisible_with_clog (h : Hdr) (readTs : Nat) (clog : Nat → Option Nat)
    (hl : h.locked = true) (hc : clog h.txnId = none) :
    isVisibleWithClog h readTs clog = .invisible := by
  simp [isVisibleWithClog, hl, hc]

/-- `is_visible_to` never shows a locked record -/
theorem locked_invisible (h : Hdr) (readTs : Nat) (hl : h.locked = true) :
    isVisibleTo h readTs = .invisible := by
  simp [isVisibleTo, hl]

/-- **the filter the live scan applies ignores LOCK_BIT and the timestamp**: a locked
(uncommitted) record of any transaction id passes it -/
theorem scan_ignores_lock (txnId : Nat) :
    scanKeeps { locked := true, deleted := false, txnId := txnId } = true := rfl

/-! ### the engine as it is: counterexamples on the M-code model `Multi` -/
open TurVerif.Undo

def mOn (m : Multi) (h : Nat) (f : Eng → Eng × Bool) : Multi := (m.on h f).1
def mUpd (m : Multi) (h k v : Nat) : Multi := (m.on h (fun e => e.update 0 (.int k) 1 (.int v))).1
def mIns (m : Multi) (h k v : Nat) : Multi := mOn m h (fun e => e.insert [.int k, .int v])
def mBegin (m : Multi) (h : Nat) : Multi := mOn m h (fun e => e.txnOp .begin none false)
def mCommit (m : Multi) (h : Nat) : Multi × Bool := m.on h (fun e => e.txnOp .commit none false)
def mRollback (m : Multi) (h : Nat) : Multi := mOn m h (fun e => e.txnOp .rollback none true)

/-- **dirty read**: handle 0 inserts row 5 inside an open transaction; a scan (through any
handle) returns it, while in the specification handle 1 does not see key 5. -/
theorem dirty_read_counterexample :
    (mIns (mBegin (mIns {} 9 1 10) 0) 0 5 50).scan = [(.int 1, .int 10), (.int 5, .int 50)] ∧
    (let s1 := (({} : SI).step 9 (.write 1 (some 10))).1
     let s2 := (s1.step 0 .begin).1
     let s3 := (s2.step 0 (.write 5 (some 50))).1
     s3.read 1 5 = none ∧ s3.read 1 1 = some 10) := by decide

/-- **lost update**: both handles open a transaction, both update row 1, both COMMITs succeed in
the engine model and the second value silently replaces the first; the specification refuses the
second COMMIT (`no_lost_update`). -/
theorem lost_update_counterexample :
    let m0 := mIns {} 9 1 10
    let m1 := mBegin (mBegin m0 0) 1
    let m2 := mUpd (mUpd m1 0 1 11) 1 1 12
    (mCommit m2 0).2 = true ∧ (mCommit (mCommit m2 0).1 1).2 = true ∧
      (mCommit (mCommit m2 0).1 1).1.scan = [(.int 1, .int 12)] := by decide

/-- **ROLLBACK of one handle overwrites another handle's committed write**: handle 0 updates row 1
in a transaction, handle 1 updates it in autocommit mode (committed), handle 0 rolls back: the
undo log re-installs handle 0's old value 10 and the committed 18 is gone. -/
theorem rollback_overwrites_counterexample :
    let m0 := mIns {} 9 1 10
    let m1 := mUpd (mBegin m0 0) 0 1 12
    let m2 := mUpd m1 1 1 18
    (mRollback m2 0).scan = [(.int 1, .int 10)] := by decide

end TurVerif.C08
