import TurVerif.Lemmas.SqlDb
import TurVerif.Lemmas.SqlDml
/-!
C05  DML results match a relational reference model.

M-spec part: theorems about the relational state machine `TurVerif.SqlDb` – what each DML
statement does to the bag of rows of its table, what it reports (affected count, RETURNING rows)
and that `SELECT COUNT(*)` always equals the number of rows.  This is the model the differential
engine `sql_dml` compares the real engine with after every statement.

M-code part: the tombstone store of the engine (`TurVerif.SqlDml`: DELETE sets a flag, scans skip
flagged records, COUNT(*) is answered from a header counter; the DELETE / UPDATE / TRUNCATE
statements walk the B-tree *without* skipping tombstones) with the refinement theorems on the
domain where the code is right (`*_partial`: no tombstone matches the statement's predicate) and
machine-checked counterexamples outside it (re-delete, update of a deleted row, truncate count).
-/
namespace TurVerif.C05
open TurVerif.Sql TurVerif.SqlDb
open TurVerif.SqlDml (sel upd)

/-- a successful `splitRows` is the partition by `sel`, and the predicate evaluated on every row -/
theorem splitRows_ok (whr : Option Expr) (rows y n : List Row)
    (h : splitRows whr rows = .ok (y, n)) :
    y = rows.filter (sel whr) ∧ n = rows.filter (fun r => !sel whr r) ∧
      ∀ r ∈ rows, ∃ b, optKeeps whr r = .ok b := by
  induction rows generalizing y n with
  | nil => cases h; exact ⟨rfl, rfl, nofun⟩
  | cons r rs ih =>
    dsimp only [splitRows] at h
    split at h
    · next b y' n' hb hrs =>
      obtain ⟨rfl, rfl, hall⟩ := ih y' n' hrs
      have hall' : ∀ x ∈ r :: rs, ∃ b, optKeeps whr x = .ok b := fun x hx => by
        rcases List.mem_cons.mp hx with rfl | hx
        · exact ⟨b, hb⟩
        · exact hall x hx
      cases b <;> cases h <;> exact ⟨by simp [sel, hb], by simp [sel, hb], hall'⟩
    · cases h
    · cases h

theorem splitRows_none (rows : List Row) : splitRows none rows = .ok (rows, []) := by
  induction rows with
  | nil => rfl
  | cons r rs ih => simp [splitRows, optKeeps, ih]

def noFks (s : DbState) : Prop := ∀ t ∈ s.tables, t.fks = []

theorem noFks_put (s : DbState) (hf : noFks s) (tn : String) (t : TableSt)
    (ht : s.find tn = some t) (rows : List Row) : noFks (s.put { t with rows := rows }) := by
  intro x hx
  obtain ⟨y, hy, rfl⟩ := List.mem_map.mp hx
  split
  · exact hf t (find_some_mem s tn t ht)
  · exact hf y hy

theorem cascadeDelete_noFks (fuel : Nat) (s : DbState) (p : String) (gone : List Row)
    (h : noFks s) : cascadeDelete fuel s p gone = s := by
  cases fuel with
  | zero => rfl
  | succ f =>
    unfold cascadeDelete
    refine List.foldlRecOn (motive := (· = s)) _ _ rfl fun acc hacc t ht => ?_
    rw [hacc, h t ht]
    rfl

/-! ### COUNT(*) -/

/-- `SELECT COUNT(*) FROM tn` as a query of the reference semantics -/
def countQuery (tn : String) : Query :=
  .sel { frm := .table tn, whr := none, grouped := true, keys := [],
         aggs := [⟨.countStar, .lit .null⟩], having := none, items := [.col 0],
         isDistinct := false, order := [], orderOnOutput := false, limit := none, offset := 0 }

/-- `SELECT * FROM tn` -/
def scanQuery (tn : String) (ncols : Nat) : Query :=
  .sel { frm := .table tn, whr := none, grouped := false, keys := [], aggs := [], having := none,
         items := (List.range ncols).map .col,
         isDistinct := false, order := [], orderOnOutput := false, limit := none, offset := 0 }

theorem toDb_find (s : DbState) (tn : String) (t : TableSt) (h : s.find tn = some t) :
    s.toDb.find tn = some { name := t.name, ncols := t.cols.length, rows := t.rows } := by
  unfold DbState.toDb Db.find
  rw [List.find?_map]
  exact congrArg (Option.map _) h

/-- COUNT(*) (evaluated by the query semantics over the visible state) equals the number of rows
of the table, in every state -/
theorem count_invariant (s : DbState) (tn : String) (t : TableSt) (h : s.find tn = some t) :
    runQuery s.toDb (countQuery tn) = .ok [[.int t.rows.length]] := by
  simp [runQuery, countQuery, runSelect, evalFrom, toDb_find s tn t h, optFilter, groupStage,
    aggregate, evalAggs, evalAgg, orderBy, attachKeys, evalKeys, projectRows, evalList, eval,
    limitOffset]

/-- … in particular in every state reachable by any history -/
theorem count_invariant_run (s : DbState) (sts : List Stmt) (tn : String) (t : TableSt)
    (h : (run s sts).1.find tn = some t) :
    runQuery (run s sts).1.toDb (countQuery tn) = .ok [[.int t.rows.length]] :=
  count_invariant _ tn t h

theorem evalAgg_countStar (rows : List Row) (e : Expr) :
    evalAgg ⟨.countStar, e⟩ rows = .ok (.int rows.length) := by
  simp [evalAgg]

/-! ### DELETE -/

/-- what a successful DELETE reports and does (tables without foreign keys): affected count =
number of rows the predicate selects on the pre-state, RETURNING = those rows (pre-image),
the table keeps exactly the other rows, in order -/
theorem delete_spec (s : DbState) (tn : String) (whr : Option Expr) (n : Nat) (ret : List Row)
    (hf : noFks s) (h : (step s (.delete tn whr)).2 = .affected n ret) :
    ∃ t, s.find tn = some t ∧
      ret = t.rows.filter (sel whr) ∧ n = (t.rows.filter (sel whr)).length ∧
      (step s (.delete tn whr)).1 = s.put { t with rows := t.rows.filter (fun r => !sel whr r) } := by
  dsimp only [step] at h ⊢
  split at h
  · cases h
  · next t ht =>
    split at h
    · cases h
    · next gone keep hsp =>
      obtain ⟨rfl, rfl, _⟩ := splitRows_ok whr t.rows gone keep hsp
      rw [cascadeDelete_noFks _ _ _ _ (noFks_put s hf tn t ht _)] at h ⊢
      obtain ⟨he, rfl, rfl, _⟩ := applyValid_affected _ _ _ _ _ _ h
      exact ⟨t, ht, rfl, rfl, congrArg Prod.fst he⟩

/-- after `DELETE … WHERE p` no remaining row satisfies `p` (as evaluated at that time), the
removed rows together with the kept rows are exactly the old rows (as a bag), and every other
table is untouched -/
theorem delete_removes (s : DbState) (tn : String) (whr : Option Expr) (n : Nat) (ret : List Row)
    (hf : noFks s) (h : (step s (.delete tn whr)).2 = .affected n ret) :
    ∃ t t', s.find tn = some t ∧ (step s (.delete tn whr)).1.find tn = some t' ∧
      (∀ r ∈ t'.rows, sel whr r = false) ∧
      (∀ r ∈ ret, sel whr r = true) ∧
      List.Perm (ret ++ t'.rows) t.rows ∧
      n = ret.length ∧
      t.rows.length = n + t'.rows.length ∧
      ∀ m, m ≠ tn → (step s (.delete tn whr)).1.find m = s.find m := by
  obtain ⟨t, ht, rfl, rfl, hs⟩ := delete_spec s tn whr n ret hf h
  refine ⟨t, { t with rows := t.rows.filter (fun r => !sel whr r) }, ht, ?_, ?_, ?_, ?_, rfl, ?_, ?_⟩
  · rw [hs]; exact find_put s tn t _ ht rfl
  · intro r hr; simpa using (List.mem_filter.mp hr).2
  · intro r hr; exact (List.mem_filter.mp hr).2
  · exact List.filter_append_perm _ _
  · exact (length_filter_add (sel whr) t.rows).symm
  · intro m hm; rw [hs]; exact find_put_other s tn m _ (find_some_name s tn t ht) hm

/-- deleted rows do not reappear: repeating the same DELETE selects nothing (0 rows affected,
empty RETURNING) and leaves the table's rows as they are -/
theorem redelete_zero (s : DbState) (tn : String) (whr : Option Expr) (n n2 : Nat)
    (ret ret2 : List Row) (hf : noFks s)
    (h : (step s (.delete tn whr)).2 = .affected n ret)
    (hf2 : noFks (step s (.delete tn whr)).1)
    (h2 : (step (step s (.delete tn whr)).1 (.delete tn whr)).2 = .affected n2 ret2) :
    n2 = 0 ∧ ret2 = [] ∧
    ∃ t', (step s (.delete tn whr)).1.find tn = some t' ∧
      ((step (step s (.delete tn whr)).1 (.delete tn whr)).1.find tn).map (·.rows) = some t'.rows := by
  obtain ⟨t, t', ht, ht', hnone, _⟩ := delete_removes s tn whr n ret hf h
  obtain ⟨t1, ht1, rfl, rfl, hs2⟩ := delete_spec _ tn whr n2 ret2 hf2 h2
  cases ht'.symm.trans ht1
  have hempty : t'.rows.filter (sel whr) = [] :=
    List.filter_eq_nil_iff.mpr fun r hr => by simp [hnone r hr]
  have hall : t'.rows.filter (fun r => !sel whr r) = t'.rows :=
    List.filter_eq_self.mpr fun r hr => by simp [hnone r hr]
  refine ⟨by rw [hempty]; rfl, hempty, t', ht', ?_⟩
  rw [hs2, hall, find_put _ tn t' _ ht' (by rfl)]
  rfl

/-! ### TRUNCATE -/

/-- TRUNCATE is DELETE without WHERE: same post-state, same affected count (the spec's TRUNCATE
has no RETURNING) -/
theorem truncate_eq_delete_all (s : DbState) (tn : String) (hf : noFks s) :
    (step s (.truncate tn)).1 = (step s (.delete tn none)).1 ∧
    (∀ n ret, (step s (.delete tn none)).2 = .affected n ret →
        (step s (.truncate tn)).2 = .affected n []) ∧
    (∀ e, (step s (.delete tn none)).2 = .err e → (step s (.truncate tn)).2 = .err e) := by
  dsimp only [step]
  cases ht : s.find tn with
  | none => simp
  | some t =>
    simp only [splitRows_none]
    rw [cascadeDelete_noFks _ _ _ _ (noFks_put s hf tn t ht [])]
    unfold applyValid
    split <;> simp

theorem truncate_empties (s : DbState) (tn : String) (n : Nat) (ret : List Row)
    (h : (step s (.truncate tn)).2 = .affected n ret) :
    ∃ t, s.find tn = some t ∧ n = t.rows.length ∧ ret = [] ∧
      ((step s (.truncate tn)).1.find tn).map (·.rows) = some [] := by
  dsimp only [step] at h ⊢
  split at h
  · cases h
  · next t ht =>
    obtain ⟨he, hn, hr, _⟩ := applyValid_affected _ _ _ _ _ _ h
    refine ⟨t, ht, hn, hr, ?_⟩
    rw [he, find_put s tn t _ ht (by rfl)]
    rfl

/-! ### INSERT -/

theorem buildInsertRows_length (t : TableSt) (cols : List Nat) (rows : List (List Expr))
    (next : Int) (out : List Row) (next' : Int)
    (h : buildInsertRows t cols rows next = .ok (out, next')) : out.length = rows.length := by
  induction rows generalizing next out with
  | nil => cases h; rfl
  | cons es rest ih =>
    dsimp only [buildInsertRows] at h
    split at h
    · cases h
    · split at h
      · cases h
      · next rs n hrest =>
        cases h
        exact congrArg (· + 1) (ih _ _ hrest)

/-- a successful INSERT appends exactly one new row per VALUES tuple at the end of the table,
keeps every old row, reports that number and returns the new rows (post-image: defaults and
generated AUTO_INCREMENT values filled in) -/
theorem insert_appends (s : DbState) (tn : String) (cols : List Nat) (rows : List (List Expr))
    (n : Nat) (ret : List Row) (h : (step s (.insert tn cols rows)).2 = .affected n ret) :
    ∃ t next, s.find tn = some t ∧
      buildInsertRows t cols rows t.nextAuto = .ok (ret, next) ∧
      n = rows.length ∧ ret.length = rows.length ∧
      (step s (.insert tn cols rows)).1.find tn = some { t with rows := t.rows ++ ret, nextAuto := next } ∧
      ∀ m, m ≠ tn → (step s (.insert tn cols rows)).1.find m = s.find m := by
  dsimp only [step] at h ⊢
  split at h
  · cases h
  · next t ht =>
    split at h
    · cases h
    · next newRows next hb =>
      obtain ⟨he, rfl, rfl, _⟩ := applyValid_affected _ _ _ _ _ _ h
      have hl := buildInsertRows_length t cols rows _ _ _ hb
      rw [he]
      exact ⟨t, next, ht, hb, hl, hl, find_put s tn t _ ht rfl,
        fun m hm => find_put_other s tn m _ (find_some_name s tn t ht) hm⟩

/-! ### UPDATE -/

theorem updateRows_ok (sets : List (Nat × Expr)) (whr : Option Expr) (rows all u : List Row)
    (h : updateRows sets whr rows = .ok (all, u)) :
    all = rows.map (fun r => if sel whr r then upd sets r else r) ∧
    u = (rows.filter (sel whr)).map (upd sets) := by
  induction rows generalizing all u with
  | nil => cases h; exact ⟨rfl, rfl⟩
  | cons r rs ih =>
    dsimp only [updateRows] at h
    split at h
    · next all' u' hb hrs =>
      obtain ⟨rfl, rfl⟩ := ih all' u' hrs
      split at h
      · next r' hr' => cases h; simp [sel, hb, upd, hr']
      · cases h
    · next all' u' hb hrs =>
      obtain ⟨rfl, rfl⟩ := ih all' u' hrs
      cases h
      simp [sel, hb]
    · cases h
    · cases h

/-- what a successful UPDATE reports and does: affected count = number of rows the predicate
selects on the pre-state; RETURNING = the post-images of exactly those rows; the table has the same
number of rows, the selected ones replaced in place, the others untouched -/
theorem update_spec (s : DbState) (tn : String) (sets : List (Nat × Expr)) (whr : Option Expr)
    (n : Nat) (ret : List Row) (h : (step s (.update tn sets whr)).2 = .affected n ret) :
    ∃ t, s.find tn = some t ∧
      n = (t.rows.filter (sel whr)).length ∧
      ret = (t.rows.filter (sel whr)).map (upd sets) ∧
      (step s (.update tn sets whr)).1.find tn =
        some { t with rows := t.rows.map (fun r => if sel whr r then upd sets r else r) } ∧
      ∀ m, m ≠ tn → (step s (.update tn sets whr)).1.find m = s.find m := by
  dsimp only [step] at h ⊢
  split at h
  · cases h
  · next t ht =>
    split at h
    · cases h
    · next all u hu =>
      obtain ⟨rfl, rfl⟩ := updateRows_ok sets whr t.rows all u hu
      obtain ⟨he, rfl, rfl, _⟩ := applyValid_affected _ _ _ _ _ _ h
      rw [he]
      exact ⟨t, ht, List.length_map .., rfl, find_put s tn t _ ht rfl,
        fun m hm => find_put_other s tn m _ (find_some_name s tn t ht) hm⟩

/-- an UPDATE that selects zero rows reports 0 and leaves every table's rows exactly as they
were (it is the identity on the visible state) -/
theorem update_zero_identity (s : DbState) (tn : String) (sets : List (Nat × Expr))
    (whr : Option Expr) (n : Nat) (ret : List Row)
    (h : (step s (.update tn sets whr)).2 = .affected n ret)
    (hz : ∀ t, s.find tn = some t → ∀ r ∈ t.rows, sel whr r = false) :
    n = 0 ∧ ret = [] ∧
    ∀ m, ((step s (.update tn sets whr)).1.find m).map (·.rows) = (s.find m).map (·.rows) := by
  obtain ⟨t, ht, rfl, rfl, hs, ho⟩ := update_spec s tn sets whr n ret h
  have hempty : t.rows.filter (sel whr) = [] :=
    List.filter_eq_nil_iff.mpr fun r hr => by simp [hz t ht r hr]
  refine ⟨by rw [hempty]; rfl, by rw [hempty]; rfl, fun m => ?_⟩
  by_cases hm : m = tn
  · subst hm
    rw [hs, ht]
    refine congrArg some ((List.map_congr_left fun r hr => ?_).trans (List.map_id _))
    rw [hz t ht r hr]; rfl
  · rw [ho m hm]

/-! ### M-code: tombstone store -/
open TurVerif.SqlDml

theorem insertLoop_ok (ok : List Row → Row → Bool) (st : TStore) (rows : List Row)
    (h : (insertLoop ok st rows).2 = none) :
    visible (insertLoop ok st rows).1 = visible st ++ rows ∧
    (insertLoop ok st rows).1.rowCount = st.rowCount + rows.length := by
  rw [insertLoop] at h ⊢
  rcases insertLoop_go ok st.rowCount rows st 0 with ⟨st', he, hv, hc⟩ | ⟨j, st', he, _⟩
  · rw [he]; exact ⟨hv, hc⟩
  · rw [he] at h; cases h

theorem insertLoop_count (ok : List Row → Row → Bool) (st : TStore) (rows : List Row)
    (hc : countOk st) (h : (insertLoop ok st rows).2 = none) :
    countOk (insertLoop ok st rows).1 := by
  obtain ⟨h1, h2⟩ := insertLoop_ok ok st rows h
  rw [countOk, h1, h2, hc, List.length_append]

def noDeadMatch (p : Row → Bool) (st : TStore) : Prop := ∀ sl ∈ st.slots, sl.dead = true → p sl.row = false

/-- `_partial`: DELETE through the tombstone store refines the relational DELETE (visible rows =
old visible rows minus the selected ones, affected = number of visible rows selected, header
invariant preserved) PROVIDED no tombstone matches the predicate.  Full statement (false of the
code, see `redelete_counterexample`): the same without `hd`. -/
theorem tombstone_delete_refines_partial (p : Row → Bool) (st : TStore)
    (hd : noDeadMatch p st) (hc : countOk st) :
    visible (deleteWhere p st).1 = (visible st).filter (fun r => !p r) ∧
    (deleteWhere p st).2 = ((visible st).filter p).length ∧
    countOk (deleteWhere p st).1 := by
  have hn : (deleteWhere p st).2 = ((visible st).filter p).length :=
    (selected_length p st).trans (congrArg _ (deadSel_eq_zero p st hd))
  refine ⟨visible_deleteWhere p st, hn, ?_⟩
  -- the header loses what the scan loses
  have hrc : (deleteWhere p st).1.rowCount = st.rowCount - (deleteWhere p st).2 := rfl
  rw [countOk, visible_deleteWhere, hrc, hn, hc, ← length_filter_add p (visible st)]
  exact Nat.add_sub_cancel_left _ _

/-- COUNTEREXAMPLE (confirmed on the real code, finding C05-tombstone-rescan): the DELETE scan does not
skip tombstones.  Two rows, `DELETE` of the first one twice: the second DELETE reports 1 affected
row although no visible row matches, and the header count drops to 0 while one row is visible. -/
theorem redelete_counterexample :
    let p := fun (r : Row) => r.head? == some (.int 1)
    let st0 : TStore := { slots := [{ row := [.int 1] }, { row := [.int 2] }], rowCount := 2 }
    let st1 := (deleteWhere p st0).1
    let st2 := (deleteWhere p st1).1
    countOk st1 ∧ (deleteWhere p st1).2 = 1 ∧ ((visible st1).filter p).length = 0 ∧
    visible st2 = [[.int 2]] ∧ countStar st2 = 0 := by
  decide

/-- `_partial`: UPDATE through the store refines the relational UPDATE provided no tombstone
matches the predicate -/
theorem tombstone_update_refines_partial (p : Row → Bool) (f : Row → Row) (st : TStore)
    (hd : noDeadMatch p st) :
    visible (updateWhere p f st).1 = (visible st).map (fun r => if p r then f r else r) ∧
    (updateWhere p f st).2 = ((visible st).filter p).length ∧
    (updateWhere p f st).1.rowCount = st.rowCount :=
  ⟨visible_updateWhere p st hd f,
    (selected_length p st).trans (congrArg _ (deadSel_eq_zero p st hd)), rfl⟩

/-- COUNTEREXAMPLE (confirmed on the real code, finding C05-tombstone-rescan): the UPDATE scan
does not skip tombstones and writes a fresh live record: a deleted row reappears, the statement
reports it as affected, and the header count is now too small. -/
theorem update_resurrects_counterexample :
    let p := fun (r : Row) => r.head? == some (.int 1)
    let f := fun (_ : Row) => ([.int 1, .int 99] : Row)
    let st0 : TStore := { slots := [{ row := [.int 1, .int 5] }, { row := [.int 2, .int 6] }], rowCount := 2 }
    let st1 := (deleteWhere p st0).1
    visible st1 = [[.int 2, .int 6]] ∧
    (updateWhere p f st1).2 = 1 ∧
    visible (updateWhere p f st1).1 = [[.int 1, .int 99], [.int 2, .int 6]] ∧
    countStar (updateWhere p f st1).1 = 1 := by
  decide

/-- TRUNCATE empties the store and resets the header; its reported count is the number of
B-tree keys, i.e. it includes tombstones -/
theorem truncate_refines (st : TStore) :
    visible (truncate st).1 = [] ∧ countOk (truncate st).1 ∧ (truncate st).2 = st.slots.length := by
  simp [truncate, visible, countOk]

theorem truncate_count_partial (st : TStore) (h : ∀ sl ∈ st.slots, sl.dead = false) :
    (truncate st).2 = (visible st).length := by
  simp only [truncate, visible, List.length_map]
  rw [List.filter_eq_self.mpr]
  intro sl hsl; simp [h sl hsl]

theorem truncate_count_counterexample :
    let p := fun (r : Row) => r.head? == some (.int 1)
    let st0 : TStore := { slots := [{ row := [.int 1] }, { row := [.int 2] }], rowCount := 2 }
    let st1 := (deleteWhere p st0).1
    (visible st1).length = 1 ∧ (truncate st1).2 = 2 := by
  decide

/-! ### M-code: DEFAULT handling and SET evaluation order of the engine -/

/-- `apply_defaults` leaves rows without NULLs in defaulted columns alone -/
theorem applyDefaults_partial (t : TableSt) (r : Row) (hl : r.length = t.cols.length)
    (h : ∀ vc ∈ r.zip t.cols, vc.1.isNull = true → vc.2.dflt.isNull = true) :
    applyDefaults t r = r := by
  unfold applyDefaults
  have : (r.zip t.cols).map (fun (vc : Val × ColDef) =>
      if vc.1.isNull && !vc.2.dflt.isNull then vc.2.dflt else vc.1) = (r.zip t.cols).map (·.1) := by
    apply List.map_congr_left
    intro vc hvc
    cases hn : vc.1.isNull
    · simp
    · simp [h vc hvc hn]
  rw [this, List.map_fst_zip]
  omega

/-- COUNTEREXAMPLE (confirmed on the real code, finding C05-explicit-null-default): an explicit
NULL written to a column with DEFAULT 'dd' is stored as 'dd' -/
theorem explicit_null_default_counterexample :
    let t : TableSt := { name := "t", cols := [{ name := "id" }, { name := "b", dflt := .text "dd" }] }
    applyDefaults t [.int 1, .null] = [.int 1, .text "dd"] ∧
    applyDefaults t [.int 1, .null] ≠ [.int 1, .null] := by
  decide

/-- when every assignment is a constant, or every assignment mentions a column, the engine's
evaluation order cannot be observed on these inputs: decided instances used as non-vacuity
witnesses for the harness's `mixedset` tag -/
theorem set_order_agrees_examples :
    SqlDml.updM [(1, .lit (.int 7)), (4, .lit (.int 3))] [.int 1, .int 10, .null, .null, .int 1]
      = upd [(1, .lit (.int 7)), (4, .lit (.int 3))] [.int 1, .int 10, .null, .null, .int 1] ∧
    SqlDml.updM [(1, .bin .add (.col 1) (.lit (.int 1))), (4, .col 1)] [.int 1, .int 10, .null, .null, .int 1]
      = upd [(1, .bin .add (.col 1) (.lit (.int 1))), (4, .col 1)] [.int 1, .int 10, .null, .null, .int 1] := by
  decide

/-- COUNTEREXAMPLE (confirmed on the real code, finding C05-update-set-order):
`UPDATE t SET a = 7, c = a + 1` on a row with a = 10 stores c = 8 (from the new a); the reference
semantics evaluates every SET expression on the old row and stores c = 11 -/
theorem set_order_counterexample :
    let sets : List (Nat × Expr) := [(1, .lit (.int 7)), (4, .bin .add (.col 1) (.lit (.int 1)))]
    let r : Row := [.int 1, .int 10, .null, .null, .int 1]
    SqlDml.updM sets r = [.int 1, .int 7, .null, .null, .int 8] ∧
    upd sets r = [.int 1, .int 7, .null, .null, .int 11] := by
  decide

end TurVerif.C05
