import TurVerif.Lemmas.Jsonb
/-!
C32  JSON documents round-trip through JSONB.

Theorems about the M-code models `TurVerif.Jsonb` (builder and readers of src/records/jsonb.rs,
`to_jsonb_bytes` of src/parsing/json.rs, the `OwnedValue::jsonb_*` glue) and `TurVerif.Json`
(`parse_json` and the RFC 8259 reference parser).

Domain of the `_partial` theorems (`WF` / `WFn`, decidable): numbers are 64-bit patterns, every
string/key stored inside a container is valid UTF-8 and shorter than 2^16 bytes, every container
encodes to fewer than 2^24 bytes (a root string: fewer than 2^28 bytes). Outside this domain the
real code loses data (u16 length prefix, 24-bit offsets): see the `_counterexample` theorems and
known findings C32-u16-string-length / C32-u16-key-length / C32-24bit-offset.
-/
namespace TurVerif.C32
open TurVerif.Jsonb TurVerif.Json

theorem arrayGet_eq (buf : List Nat) (i : Nat) (h1 : rootType buf = 1) (h2 : i < entryCount buf) :
    arrayGet buf i = (arrayItem buf i).bind fun v => .ok (some v) := by
  unfold arrayGet arrayItem
  simp only [h1, ne_eq, not_true_eq_false, if_false, Nat.not_le.2 h2]
  rw [Res.bind_assoc]

theorem normPairs_mem (kvs : List KV) (k : List Nat) (y : J) :
    (k, y) ∈ normPairs kvs ↔ ∃ x, (k, x) ∈ kvs ∧ y = norm x := by
  induction kvs with
  | nil => exact ⟨nofun, fun ⟨_, h, _⟩ => nomatch h⟩
  | cons kv rest ih =>
    obtain ⟨k', v⟩ := kv
    show (k, y) ∈ (k', norm v) :: normPairs rest ↔ _
    simp only [List.mem_cons, Prod.mk.injEq, ih]
    constructor
    · rintro (⟨rfl, rfl⟩ | ⟨x, hx, rfl⟩)
      · exact ⟨v, Or.inl ⟨rfl, rfl⟩, rfl⟩
      · exact ⟨x, Or.inr hx, rfl⟩
    · rintro ⟨x, (⟨rfl, rfl⟩ | hx), rfl⟩
      · exact Or.inl ⟨rfl, rfl⟩
      · exact Or.inr ⟨x, hx, rfl⟩

theorem nodup_keys_unique (kvs : List KV) (h : (kvs.map (·.1)).Nodup) (k : List Nat) (x y : J)
    (hx : (k, x) ∈ kvs) (hy : (k, y) ∈ kvs) : x = y := by
  induction kvs with
  | nil => simp at hx
  | cons kv rest ih =>
    simp only [List.map_cons, List.nodup_cons, List.mem_map, not_exists, not_and] at h
    rcases List.mem_cons.mp hx with rfl | hx'
    · rcases List.mem_cons.mp hy with hy' | hy'
      · injection hy' with _ h2; exact h2.symm
      · exact absurd rfl (h.1 (k, y) hy')
    · rcases List.mem_cons.mp hy with rfl | hy'
      · exact absurd rfl (h.1 (k, x) hx')
      · exact ih h.2 hx' hy'

/-- one `get` step of a path: only an object can be stepped into -/
def stepGet (r : Option V) (k : List Nat) : Res (Option V) :=
  match r with
  | some (.obj view) => get view k
  | _ => .ok none

theorem pathLoop_nil (cur : Option V) : pathLoop cur [] = .ok cur := by
  cases cur <;> rfl

theorem pathLoop_none (ks : List (List Nat)) : pathLoop none ks = .ok none := by
  cases ks <;> rfl

/-- the loop of `get_path` is one `stepGet` per key -/
theorem pathLoop_cons (cur : Option V) (k : List Nat) (ks : List (List Nat)) :
    pathLoop cur (k :: ks) = (stepGet cur k).bind fun r => pathLoop r ks := by
  cases cur with
  | none => exact (pathLoop_none ks).symm
  | some v =>
    cases v with
    | obj view => rfl
    | _ => exact (pathLoop_none ks).symm

theorem pathLoop_append (ks ks' : List (List Nat)) : ∀ cur,
    pathLoop cur (ks ++ ks') = (pathLoop cur ks).bind fun r => pathLoop r ks' := by
  induction ks with
  | nil => intro cur; rfl
  | cons k ks ih =>
    intro cur
    simp only [List.cons_append, pathLoop_cons, Res.bind_assoc, ih]

/-- ROUND TRIP (`_partial`: domain `WF`): reading a built document back through the iteration
API yields exactly the value that was encoded, members in stored order. -/
theorem view_build_partial (w : J) (h : WF w) : fromJsonb (encVal w) = .ok w := by
  rw [fromJsonb, viewNew_encVal, Res.bind_ok, asValue_encVal w h, Res.bind_ok]
  exact fromV_toV w h _ (size_le_encVal w)

/-- ROUND TRIP through the builder: what is read back is the value with every object's members
stably sorted by key bytes, duplicates kept (`norm` = what the code does). -/
theorem view_build_toJsonb_partial (v : J) (h : WF (norm v)) :
    fromJsonb (toJsonb v) = .ok (norm v) :=
  view_build_partial (norm v) h

/-- every object the builder writes has its members sorted by key, and they are a permutation
of the (normalised) input members: nothing is dropped, duplicates are kept. -/
theorem norm_obj_sorted_perm (kvs : List KV) :
    ∃ kvs', norm (.obj kvs) = .obj kvs' ∧ SortedKV kvs' ∧ List.Perm kvs' (normPairs kvs) :=
  ⟨sortKV (normPairs kvs), rfl, sortKV_sorted _, sortKV_perm _⟩

/-- ARRAY INDEX (`_partial`): every element is retrievable by its index, an index past the end
yields `None`. Containers come back as a view onto exactly their own encoding. -/
theorem array_get_correct_partial (xs : List J) (h : WFn (.arr xs)) (i : Nat) :
    arrayGet (encVal (.arr xs)) i = .ok (xs[i]?.map toV) := by
  have hh := arr_header xs h
  simp only [encVal]
  by_cases hi : i < xs.length
  · rw [arrayGet_eq _ _ hh.1 (by rw [hh.2]; exact hi), arrayItem_doc xs h i hi]
    simp [hi]
  · have hle : entryCount (mkArr xs.length (encElems xs 0)) ≤ i := by
      rw [hh.2]; exact Nat.le_of_not_lt hi
    simp [arrayGet, hh.1, hle, List.getElem?_eq_none (Nat.le_of_not_lt hi)]

/-- KEY LOOKUP, general form (`_partial`; duplicates allowed): `get` never fails on a built
object; a hit is the value of *some* member with that key; on a key-sorted object (which is what
the builder writes) a miss means no member has that key. -/
theorem get_sound_partial (kvs : List KV) (h : WFn (.obj kvs)) (key : List Nat) :
    ∃ r, get (encVal (.obj kvs)) key = .ok r ∧
      (∀ v, r = some v → ∃ x, (key, x) ∈ kvs ∧ v = toV x) ∧
      (r = none → SortedKV kvs → ∀ x, (key, x) ∉ kvs) := by
  have hh := obj_header kvs h
  simp only [encVal]
  unfold Jsonb.get
  simp only [hh.1, hh.2, Nat.mul_div_cancel_left _ (Nat.zero_lt_succ 1), ne_eq, not_true_eq_false,
    if_false]
  by_cases hn : kvs.length = 0
  · cases List.eq_nil_of_length_eq_zero hn
    exact ⟨none, rfl, nofun, fun _ _ _ => List.not_mem_nil⟩
  · simp only [hn, if_false]
    obtain ⟨r, hr, h1, h2⟩ := bsearch_spec _ key kvs (objectParts_doc kvs h)
      (kvs.length + 1) 0 kvs.length (Nat.le_refl _)
      (Nat.le_trans (Nat.le_succ _) (Nat.le_add_left _ 0))
    refine ⟨r, hr, h1, ?_⟩
    · intro hnone hs x hx
      obtain ⟨i, hi, heq⟩ := List.getElem_of_mem hx
      have := h2 hnone hs i hi (Nat.zero_le _) hi
      rw [heq] at this
      exact this rfl

/-- KEY LOOKUP (`_partial`): with distinct keys, every key is looked up to its value. -/
theorem get_correct_partial (kvs : List KV) (h : WFn (.obj kvs)) (hs : SortedKV kvs)
    (hnd : (kvs.map (·.1)).Nodup) (key : List Nat) (x : J) (hx : (key, x) ∈ kvs) :
    get (encVal (.obj kvs)) key = .ok (some (toV x)) := by
  obtain ⟨r, hr, h1, h2⟩ := get_sound_partial kvs h key
  cases r with
  | none => exact absurd hx (h2 rfl hs x)
  | some v =>
    obtain ⟨x', hx', hv⟩ := h1 v rfl
    rw [hr, hv, nodup_keys_unique kvs hnd key x x' hx hx']

/-- KEY LOOKUP (`_partial`): a key that no member has is not found. -/
theorem get_absent_partial (kvs : List KV) (h : WFn (.obj kvs)) (key : List Nat)
    (hx : ∀ x, (key, x) ∉ kvs) : get (encVal (.obj kvs)) key = .ok none := by
  obtain ⟨r, hr, h1, _⟩ := get_sound_partial kvs h key
  cases r with
  | none => exact hr
  | some v => obtain ⟨x, hx', _⟩ := h1 v rfl; exact absurd hx' (hx x)

/-- KEY LOOKUP on a document as built from parsed members (unsorted, possibly duplicate keys):
found iff some member has the key, and then the result is the stored form of one of them. -/
theorem get_toJsonb_partial (kvs : List KV) (h : WF (norm (.obj kvs))) (key : List Nat) :
    ∃ r, Jsonb.get (toJsonb (.obj kvs)) key = .ok r ∧
      (r = none ↔ ∀ x, (key, x) ∉ kvs) ∧
      (∀ v, r = some v → ∃ x, (key, x) ∈ kvs ∧ v = toV (norm x)) := by
  -- `toJsonb (.obj kvs)` is `encVal (norm (.obj kvs))`, and `norm` of an object unfolds to this
  have h' : WFn (.obj (sortKV (normPairs kvs))) := h
  obtain ⟨r, hr, h1, h2⟩ := get_sound_partial _ h' key
  have hmem : ∀ y, (key, y) ∈ sortKV (normPairs kvs) ↔ ∃ x, (key, x) ∈ kvs ∧ y = norm x := by
    intro y
    rw [(sortKV_perm (normPairs kvs)).mem_iff, normPairs_mem]
  refine ⟨r, hr, ⟨?_, ?_⟩, ?_⟩
  · intro hnone x hx
    exact h2 hnone (sortKV_sorted _) (norm x) ((hmem _).mpr ⟨x, hx, rfl⟩)
  · intro hno
    cases r with
    | none => rfl
    | some v =>
      obtain ⟨y, hy, _⟩ := h1 v rfl
      obtain ⟨x, hx, _⟩ := (hmem y).mp hy
      exact absurd hx (hno x)
  · intro v hv
    obtain ⟨y, hy, hval⟩ := h1 v hv
    obtain ⟨x, hx, rfl⟩ := (hmem y).mp hy
    exact ⟨x, hx, hval⟩

/-- PATH = STEPWISE (full strength, any bytes): a one-key path is `get`; extending a non-empty
path by a key is one more `get` on the result (only objects can be stepped into, anything else
gives `None`). Holds for every buffer, well formed or not, including the error and
out-of-bounds outcomes. -/
theorem path_stepwise (buf : List Nat) (k0 : List Nat) (ks : List (List Nat)) (k : List Nat) :
    getPath buf [k0] = get buf k0 ∧
    getPath buf (k0 :: ks ++ [k]) = (getPath buf (k0 :: ks)).bind fun r => stepGet r k := by
  constructor
  · exact Res.bind_pure _
  · simp only [getPath, List.cons_append, pathLoop_append, pathLoop_cons, pathLoop_nil,
      Res.bind_assoc, Res.bind_pure]

/-- what `get` / `array_get` hand out for a nested container is a view onto a complete document
(the container's own encoding), so all lookup theorems apply again to the result: this is what
makes `path_stepwise` + `get_*_partial` a statement about whole paths. -/
theorem nested_view_is_document (xs : List J) (kvs : List KV) :
    toV (.arr xs) = .arr (encVal (.arr xs)) ∧ toV (.obj kvs) = .obj (encVal (.obj kvs)) :=
  ⟨rfl, rfl⟩

/-- the empty path is the document itself -/
theorem path_empty (buf : List Nat) :
    getPath buf [] = (asValue buf).bind fun v => .ok (some v) := rfl

/-- the `OwnedValue::jsonb_*` getters are the view getters behind `JsonbView::new` -/
theorem owned_value_glue (data key : List Nat) (p : List (List Nat)) (i : Nat)
    (h : 4 ≤ data.length) :
    ovGet data key = get data key ∧ ovGetPath data p = getPath data p ∧
    ovArrayGet data i = arrayGet data i := by
  simp [ovGet, ovGetPath, ovArrayGet, viewNew, h]

/-! ### counterexamples: the full statements are false of the faithful model -/

/-- the u16 length prefix of nested strings/keys cannot tell 65536 from 0 … -/
theorem nested_length_prefix_counterexample : le16 65536 = le16 0 ∧ le16 70000 = le16 4464 :=
  ⟨leN_add_mul 2 1 0, leN_add_mul 2 1 4464⟩

/-- … so the round trip fails outside the domain: an array holding one string of 65536 bytes
reads back as an array holding the empty string (known finding C32-u16-string-length). -/
theorem long_string_reads_back_empty (s : List Nat) (hs : s.length = 65536) :
    fromJsonb (encVal (.arr [.str s])) = .ok (.arr [.str []]) := by
  show fromJsonb (mkArr 1 (encElems [.str s] 0)) = _
  -- one entry (string, offset 0); its data is the prefix `le16 65536 = [0, 0]`, then `s`
  have henc : mkArr 1 (encElems [.str s] 0) = hdr 1 1 ++ entry 69 0 ++ (le16 65536 ++ s) := by
    show hdr 1 1 ++ (entry 69 0 ++ []) ++ (le16 s.length ++ s ++ []) = _
    rw [List.append_nil, List.append_nil, hs]
  have hitem : arrayItem (mkArr 1 (encElems [.str s] 0)) 0 = .ok (.str []) := by
    rw [henc]
    unfold arrayItem
    rw [readEntry_at (A := []) (B := []) (top := 69) (off := 0) (idx := 0) (List.append_nil _).symm rfl
      (by decide), Res.bind_ok]
    simp only [decodeEntry, sliceFrom_dataStart (n := 1) (tbl := entry 69 0) (by decide) rfl,
      Res.bind_ok, lenPrefixed, Nat.reduceMod, Nat.reduceEqDiff, if_false, if_true]
    rw [slice_prefixed rd16 0 2 (l := le16 65536 ++ s) (pre := []) (lb := le16 65536) (body := []) rfl
      rfl rfl rfl]
    rfl
  have hcount : entryCount (mkArr 1 (encElems [.str s] 0)) = 1 := by
    rw [henc, List.append_assoc]; exact entryCount_hdr _ _ _ (by decide)
  have h4 : 4 ≤ (mkArr 1 (encElems [.str s] 0)).length := by rw [mkArr_length]; omega
  simp [fromJsonb, viewNew, h4, asValue, rootType_mkArr, fromV, hcount, hitem, iterRes]

/-- the witness: an array holding 65536 bytes `s`; what comes back holds a string of another length -/
theorem view_build_counterexample : ∃ w : J, fromJsonb (encVal w) ≠ .ok w := by
  refine ⟨.arr [.str (List.replicate 65536 115)], ?_⟩
  rw [long_string_reads_back_empty _ (List.length_replicate ..)]
  intro h
  have := congrArg (fun r => match r with | Res.ok (.arr [.str s]) => s.length | _ => 0) h
  exact absurd (this.trans List.length_replicate) (by decide)

/-- entry offsets are 24 bits: two data offsets 2^24 apart get the same entry word
(known finding C32-24bit-offset). -/
theorem entry_offset_wrap_counterexample (top k : Nat) :
    entry top (16777216 + k) = entry top k :=
  congrArg (· ++ [top]) (leN_add_mul 3 1 k)

/-- a number table for the concrete examples: `1` and `2` -/
def exNum (lex : List Nat) : Option (Option Nat) :=
  if lex = [49] then some (some 0x3ff0000000000000)
  else if lex = [50] then some (some 0x4000000000000000)
  else none

def rAccepts (numOf : Bytes → Option (Option Nat)) (t : Bytes) : Bool :=
  match rparse numOf t with
  | .ok _ _ => true
  | _ => false
def sAccepts (numOf : Bytes → Option (Option Nat)) (t : Bytes) : Bool :=
  match parseJ numOf t with
  | .ok _ _ => true
  | _ => false

/-- `"\ud83d\ude00"` (U+1F600 spelled as a surrogate pair) is a JSON text whose value is the
4-byte UTF-8 string F0 9F 98 80, but the model of `parse_json` rejects it: the property "any JSON
document … read back equals the JSON value" fails at the first step
(known finding C32-surrogate-pair-escape). -/
theorem surrogate_pair_counterexample :
    (match parseJ exNum [34, 92, 117, 100, 56, 51, 100, 92, 117, 100, 101, 48, 48, 34] with
      | .ok (.str [240, 159, 152, 128]) [] => true
      | _ => false) = true ∧
    rAccepts exNum [34, 92, 117, 100, 56, 51, 100, 92, 117, 100, 101, 48, 48, 34] = false := by
  decide

/-- the reference parser is strict where the code's parser is lenient: `[1 2]` (missing comma),
`[1,]` (trailing comma) and `1 2` (trailing text) are accepted by the model of `parse_json` and
rejected by the RFC 8259 parser. (Not part of the property: these are not JSON documents.) -/
theorem rparse_lenient_examples :
    rAccepts exNum [91, 49, 32, 50, 93] = true ∧ sAccepts exNum [91, 49, 32, 50, 93] = false ∧
    rAccepts exNum [91, 49, 44, 93] = true ∧ sAccepts exNum [91, 49, 44, 93] = false ∧
    rAccepts exNum [49, 32, 50] = true ∧ sAccepts exNum [49, 32, 50] = false := by
  decide

/-- both parsers on a small valid document `{"b":1,"a":[true,null,"x"]}` produce the same
value, members in text order -/
theorem parsers_agree_example :
    (match rparse exNum [123, 34, 98, 34, 58, 49, 44, 34, 97, 34, 58, 91, 116, 114, 117, 101, 44,
        110, 117, 108, 108, 44, 34, 120, 34, 93, 125],
      parseJ exNum [123, 34, 98, 34, 58, 49, 44, 34, 97, 34, 58, 91, 116, 114, 117, 101, 44,
        110, 117, 108, 108, 44, 34, 120, 34, 93, 125] with
      | .ok (.obj [([98], .num 0x3ff0000000000000), ([97], .arr [.bool true, .null, .str [120]])]) [],
        .ok (.obj [([98], .num 0x3ff0000000000000), ([97], .arr [.bool true, .null, .str [120]])]) [] => true
      | _, _ => false) = true := by
  decide

/-! ### non-vacuity -/
example : WF (norm (.obj [([98], .num 1), ([97], .arr [.bool true, .null, .str [120]]), ([98], .num 2)])) := by
  -- `norm` puts key 97 first and keeps both 98s in order; then member by member
  -- (key, value, rest) and the size bound of each container
  show WF (.obj [([97], .arr [.bool true, .null, .str [120]]), ([98], .num 1), ([98], .num 2)])
  exact ⟨⟨⟨by decide, rfl⟩, ⟨⟨trivial, trivial, ⟨by decide, rfl⟩, trivial⟩, by decide⟩,
    ⟨by decide, rfl⟩, (by decide : 1 < 2 ^ 64), ⟨by decide, rfl⟩, (by decide : 2 < 2 ^ 64), trivial⟩,
    by decide⟩

end TurVerif.C32
