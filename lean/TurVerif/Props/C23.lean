import TurVerif.Lemmas.DecCore
import TurVerif.Lemmas.CatalogDec
import TurVerif.Model.RecordView
import TurVerif.Model.PageHdr
import TurVerif.Model.FileHdr
import TurVerif.Model.ArrayView
import TurVerif.Model.CatalogDec
import TurVerif.Props.C27
/-!
C23  Decoders of stored bytes reject corruption without crashing.

Theorems about the guard-structure models (`Model/DecCore`, `RecordView`, `PageHdr`, `FileHdr`,
`ArrayView`, `CatalogDec`, plus the `Varint`, `Jsonb` models of C27 / C32).  `r.panics = false` says
the outcome is a value or an `Err`: not an out-of-bounds read, not an arithmetic-overflow
panic, not an `expect` on corrupt data, and no loop ran out of fuel.

Where the guards of the code suffice the statement is proved for EVERY buffer (`*_total`).
Where they do not, there is a `*_counterexample` (a concrete buffer on which the faithful model
reads out of bounds / overflows; the same bytes panic in the real code, see known_findings.json)
and a `*_partial` theorem with the explicit domain on which the decoder is safe.
-/
namespace TurVerif.C23
open TurVerif.Dec

/-- the opening of every header decoder: `ensure!(len >= n)` guards the slice `&data[..n]` -/
theorem prefix_safe {β : Type} {b : Buf} {n : Nat} {e : String} {f : List Nat → Res β}
    (h : ∀ l, (f l).panics = false) :
    ((ensure (decide (n ≤ b.len)) e).bind fun _ => (slice b 0 n).bind f).panics = false :=
  ensure_bind fun hn => slice_bind (Nat.zero_le _) (of_decide_eq_true hn) h

theorem hdr_safe {b : Buf} (h : 16 ≤ b.len) : PageHdr.hdrFromBytes b = .ok () := by
  rw [PageHdr.hdrFromBytes, decide_eq_true h, slice_le (Nat.zero_le _) h]; rfl

theorem hdr_total (b : Buf) : (PageHdr.hdrFromBytes b).panics = false :=
  prefix_safe fun _ => rfl

theorem fromPage_len {ty : Nat} {b : Buf} (h : PageHdr.fromPage ty b = .ok ()) :
    b.len = 16384 := by
  by_cases hl : b.len = PageHdr.PAGE_SIZE
  · exact hl
  · rw [PageHdr.fromPage, decide_eq_false hl] at h; cases h

/-- the constant offsets of the page header lie inside a full page -/
theorem le_page {b : Buf} (hl : b.len = 16384) {k : Nat} (hk : k ≤ 16384 := by decide) : k ≤ b.len :=
  hl ▸ hk

/-- slot `i` of an array of `cc ≤ lim` slots of `size` bytes from `start` ends inside a buffer that has room for
`lim` slots: the layout limits 2045 (leaf), 1364 (interior), 4080 (HNSW) are `(16384 - start) / size` -/
theorem slot_fits {start size cc lim i len : Nat} (hi : i < cc) (hc : cc ≤ lim) (hfit : start + lim * size ≤ len) :
    start + i * size + size ≤ len :=
  calc start + i * size + size = start + (i + 1) * size := by rw [Nat.add_one_mul, Nat.add_assoc]
    _ ≤ start + lim * size := Nat.add_le_add_left (Nat.mul_le_mul_right size (Nat.le_trans hi hc)) start
    _ ≤ len := hfit

theorem cellCount_eq {b : Buf} (h : b.len = 16384) :
    PageHdr.cellCount b = .ok (b.get 2 + 256 * b.get 3) := by
  rw [PageHdr.cellCount, hdr_safe (le_page h)]
  exact rd16_le (le_page h)

/-! #### file headers and WAL frames: the guards suffice for every input -/

theorem meta_header_total (b : Buf) : (FileHdr.metaFromBytes b).panics = false :=
  prefix_safe fun _ => ensure_bind fun _ => ensure_bind fun _ => rfl

theorem table_header_total (b : Buf) : (FileHdr.tableFromBytes b).panics = false :=
  prefix_safe fun _ => ensure_bind fun _ => rfl

theorem index_header_total (b : Buf) : (FileHdr.indexFromBytes b).panics = false :=
  prefix_safe fun _ => ensure_bind fun _ => rfl

theorem hnsw_header_total (b : Buf) : (FileHdr.hnswFromBytes b).panics = false :=
  ensure_bind fun h =>
    have hl : FileHdr.FILE_HEADER_SIZE ≤ b.len := of_decide_eq_true h
    slice_bind (Nat.zero_le _) (Nat.le_trans (by decide) hl) fun _ =>
      ensure_bind fun _ => slice_bind (Nat.zero_le _) hl fun _ => rfl

/-- `WalSegment::read_frame` on any remaining file content and for any checksum function -/
theorem wal_read_frame_total (crc : List Nat → Nat) (b : Buf) :
    (FileHdr.readFrame crc b).panics = false :=
  prefix_safe fun _ => ensure_bind fun h =>
    slice_bind (Nat.le_add_right _ _) (of_decide_eq_true h) fun _ => ensure_bind fun _ => ensure_bind fun _ => rfl

/- The concrete buffers below are run by `decide +kernel`: the kernel evaluates the decoder once, where plain
`decide` first evaluates it in the elaborator and then has the kernel do it again. -/

/-- an accepted frame whose `page_no` is `u32::MAX` makes `Wal::recover` overflow `page_no + 1` -/
theorem wal_recover_arith_counterexample :
    FileHdr.recoverRequiredPages 10 4294967295 0 = .arith := by decide +kernel

theorem wal_recover_partial (pc pn ds : Nat) (h : pn < 4294967295) :
    (FileHdr.recoverRequiredPages pc pn ds).panics = false := by
  unfold FileHdr.recoverRequiredPages
  exact ite_safe (fun _ => by rw [if_pos (by omega)]; rfl) fun _ => rfl

theorem validate_page_total (b : Buf) : (PageHdr.validatePage b).panics = false := by
  refine ensure_bind fun h => ?_
  have hl : b.len = 16384 := of_decide_eq_true h
  -- on a full page the header and its five fields are read inside the buffer
  rw [hdr_safe (le_page hl), bind_ok, rd_lt (le_page hl), bind_ok, rd_lt (le_page hl), bind_ok,
    rd16_le (le_page hl), bind_ok, rd16_le (le_page hl), bind_ok, rd16_le (le_page hl), bind_ok]
  exact ite_safe (fun _ => rfl) fun _ =>
    ensure_bind fun _ => ensure_bind fun _ => ensure_bind fun _ => ensure_safe

theorem from_page_total (ty : Nat) (b : Buf) : (PageHdr.fromPage ty b).panics = false := by
  refine ensure_bind fun h => ?_
  have hl : b.len = 16384 := of_decide_eq_true h
  rw [hdr_safe (le_page hl), bind_ok, rd_lt (le_page hl)]
  exact ensure_safe

/-! #### leaf / interior / HNSW page accessors: safe only while the count field is within the
layout limit; a corrupt count reads out of bounds -/

/-- a page that passes `validate_page` and `LeafNode::from_page`: type 2, cell_count 0xFFFF,
free_start 24, free_end 16384 -/
def leafBigCount : Buf := ⟨16384, fun i =>
  if i = 0 then 2 else if i = 2 ∨ i = 3 then 255 else if i = 4 then 24 else if i = 7 then 64 else 0⟩

theorem leaf_slot_oob_counterexample :
    PageHdr.validatePage leafBigCount = .ok () ∧ PageHdr.fromPage 2 leafBigCount = .ok () ∧
    PageHdr.leafSlotAt leafBigCount 2045 = .oob ∧ PageHdr.leafKeyAt leafBigCount 2045 = .oob ∧
    PageHdr.leafValueAt leafBigCount 65534 = .oob := by decide +kernel

/-- `slot_at` is safe for every index while `cell_count ≤ 2045` (= (16384-24)/8) -/
theorem leaf_slot_total_partial (b : Buf) (hp : PageHdr.fromPage 2 b = .ok ())
    (hc : b.get 2 + 256 * b.get 3 ≤ 2045) (i : Nat) : (PageHdr.leafSlotAt b i).panics = false := by
  have hl := fromPage_len hp
  rw [PageHdr.leafSlotAt, cellCount_eq hl, bind_ok]
  refine ensure_bind fun h => ?_
  exact slice_bind (Nat.le_add_right _ _) (slot_fits (of_decide_eq_true h) hc (le_page hl)) fun _ => rfl

theorem leaf_key_total_partial (b : Buf) (hp : PageHdr.fromPage 2 b = .ok ())
    (hc : b.get 2 + 256 * b.get 3 ≤ 2045) (i : Nat) : (PageHdr.leafKeyAt b i).panics = false :=
  bind_safe (leaf_slot_total_partial b hp hc i) fun s _ => ensure_bind fun h =>
    slice_safe (Nat.le_add_right _ _) (by rw [fromPage_len hp]; exact of_decide_eq_true h)

/-- one cell whose value-length varint is `FF FF FF FF FF FF FF FF FF` (u64::MAX): the checked
addition `value_data_start + value_len` overflows -/
def leafHugeValue : Buf := ⟨16384, fun i =>
  if i = 0 then 2 else if i = 2 then 1 else if i = 4 then 32 else if i = 7 then 64
  else if i = 28 then 100 else if 100 ≤ i ∧ i < 109 then 255 else 0⟩

theorem leaf_value_arith_counterexample :
    PageHdr.validatePage leafHugeValue = .ok () ∧ PageHdr.fromPage 2 leafHugeValue = .ok () ∧
    PageHdr.leafKeyAt leafHugeValue 0 = .ok [] ∧
    PageHdr.leafValueAt leafHugeValue 0 = .arith := by decide +kernel

theorem bytes_lt (b : Buf) (hb : ∀ i, b.get i < 256) (s n : Nat) : ∀ x ∈ bytes b s n, x < 256 := by
  intro x hx
  simp only [bytes, List.mem_map] at hx
  obtain ⟨k, _, rfl⟩ := hx
  exact hb _

/-- `decode_varint` on the rest of the page: total by C27 -/
theorem varintAt_safe {b : Buf} (hb : ∀ i, b.get i < 256) {s : Nat} (hs : s ≤ b.len) :
    (PageHdr.varintAt b s).panics = false := by
  rw [PageHdr.varintAt, sliceFromB, if_pos hs, bind_ok]
  split
  · rfl
  · rfl
  · next h => exact absurd h (C27.decode_total _ (bytes_lt ⟨_, fun i => b.get (s + i)⟩ (fun i => hb _) _ _)).1

/-- sequencing when the only panic allowed is an arithmetic overflow in the continuation -/
theorem bind_arith_or {α β : Type} {r : Res α} {f : α → Res β} (h1 : r.panics = false)
    (h2 : ∀ a, r = .ok a → f a = .arith ∨ (f a).panics = false) :
    r.bind f = .arith ∨ (r.bind f).panics = false := by
  cases r with
  | ok a => exact h2 a rfl
  | err e => exact .inr rfl
  | _ => cases h1

/-- `value_at` on a page whose cell_count is within the layout limit: the only possible panic is
the overflow of `value_data_start + value_len`, which no guard of the code precedes -/
theorem leaf_value_partial (b : Buf) (hp : PageHdr.fromPage 2 b = .ok ())
    (hc : b.get 2 + 256 * b.get 3 ≤ 2045) (hb : ∀ i, b.get i < 256) (i : Nat) :
    PageHdr.leafValueAt b i = .arith ∨ (PageHdr.leafValueAt b i).panics = false := by
  have hl := fromPage_len hp
  refine bind_arith_or (leaf_slot_total_partial b hp hc i) fun s _ => ?_
  refine bind_arith_or (ensure_safe) fun _ hv => ?_
  have hv' : s.off + s.klen ≤ b.len := by
    rw [hl]; exact Nat.le_of_lt (of_decide_eq_true (ensure_ok hv))
  refine bind_arith_or (varintAt_safe hb hv') fun ⟨vlen, n⟩ _ => ?_
  dsimp only
  unfold addUsize
  split
  · exact .inr (ensure_bind fun he =>
      slice_safe (Nat.le_add_right _ _) (by rw [hl]; exact of_decide_eq_true he))
  · exact .inl rfl

def intBigCount : Buf := ⟨16384, fun i =>
  if i = 0 then 1 else if i = 2 ∨ i = 3 then 255 else if i = 4 then 16 else if i = 7 then 64 else 0⟩

theorem interior_slot_oob_counterexample :
    PageHdr.validatePage intBigCount = .ok () ∧ PageHdr.fromPage 1 intBigCount = .ok () ∧
    PageHdr.intSlotAt intBigCount 1364 = .oob ∧ PageHdr.intKeyAt intBigCount 1364 = .oob := by decide +kernel

theorem interior_slot_total_partial (b : Buf) (hp : PageHdr.fromPage 1 b = .ok ())
    (hc : b.get 2 + 256 * b.get 3 ≤ 1364) (i : Nat) : (PageHdr.intSlotAt b i).panics = false := by
  have hl := fromPage_len hp
  rw [PageHdr.intSlotAt, cellCount_eq hl, bind_ok]
  refine ensure_bind fun h => ?_
  exact slice_bind (Nat.le_add_right _ _) (slot_fits (of_decide_eq_true h) hc (le_page hl)) fun _ => rfl

theorem interior_key_total_partial (b : Buf) (hp : PageHdr.fromPage 1 b = .ok ())
    (hc : b.get 2 + 256 * b.get 3 ≤ 1364) (i : Nat) : (PageHdr.intKeyAt b i).panics = false :=
  bind_safe (interior_slot_total_partial b hp hc i) fun s _ => ensure_bind fun h =>
    slice_safe (Nat.le_add_right _ _) (by rw [fromPage_len hp]; exact of_decide_eq_true h)

/-- both halves of `[l, r)` around the midpoint are shorter than `[l, r)` -/
theorem bisect_lt {l r f : Nat} (hlr : l < r) (h : r - l < f + 1) :
    l + (r - l) / 2 - l < f ∧ r - (l + (r - l) / 2 + 1) < f := by
  have hpos : 0 < r - l := Nat.sub_pos_of_lt hlr
  have hf : r - l ≤ f := Nat.le_of_lt_succ h
  constructor
  · rw [Nat.add_sub_cancel_left]
    exact Nat.lt_of_lt_of_le (Nat.div_lt_self hpos (by decide)) hf
  · refine Nat.lt_of_le_of_lt (Nat.sub_le_sub_left (Nat.succ_le_succ (Nat.le_add_right l _)) r) ?_
    rw [Nat.sub_succ]
    exact Nat.lt_of_lt_of_le (Nat.pred_lt (Nat.ne_of_gt hpos)) hf

/-- the binary search never runs out of fuel and never panics while the slots it can touch are
inside the page -/
theorem find_loop_safe (b : Buf) (hp : PageHdr.fromPage 1 b = .ok ())
    (hc : b.get 2 + 256 * b.get 3 ≤ 1364) (key : List Nat) (kp : Nat) :
    ∀ (f l r : Nat), r - l < f → (PageHdr.findLoop b key kp f l r).panics = false
  | 0, _, _, h => absurd h (Nat.not_lt_zero _)
  | f + 1, l, r, h => by
    refine ite_safe (fun hlr => ?_) fun _ => rfl
    have lo := find_loop_safe b hp hc key kp f l _ (bisect_lt hlr h).1
    have hi := find_loop_safe b hp hc key kp f _ r (bisect_lt hlr h).2
    exact bind_safe (interior_slot_total_partial b hp hc _) fun s _ =>
      ite_safe (fun _ => lo) fun _ => ite_safe (fun _ => hi) fun _ =>
      bind_safe (interior_key_total_partial b hp hc _) fun sep _ => ite_safe (fun _ => lo) fun _ => hi

theorem find_child_total_partial (b : Buf) (hp : PageHdr.fromPage 1 b = .ok ())
    (hc : b.get 2 + 256 * b.get 3 ≤ 1364) (key : List Nat) :
    (PageHdr.findChild b key).panics = false := by
  have hl := fromPage_len hp
  have hrc : ((PageHdr.rightChild b).bind fun rc => Res.ok (rc, (none : Option Nat))).panics = false := by
    obtain ⟨v, hv⟩ := rd32_le (b := b) (i := 12) (le_page hl)
    rw [PageHdr.rightChild, hdr_safe (le_page hl), show (Res.ok ()).unwrap.bind (fun _ => rd32 b 12) = .ok v from hv]
    rfl
  rw [PageHdr.findChild, cellCount_eq hl, bind_ok]
  exact ite_safe (fun _ => hrc) fun _ =>
    bind_safe (find_loop_safe b hp hc key _ _ _ _ (Nat.lt_succ_self _)) fun l _ =>
      ite_safe (fun _ => bind_safe (interior_slot_total_partial b hp hc _) fun _ _ => rfl) fun _ => hrc

theorem find_child_oob_counterexample :
    PageHdr.findChild intBigCount [97] = .oob := by decide +kernel

/-- HNSW node page: slot_count 0xFFFF -/
def hnswBigCount : Buf := ⟨16384, fun i =>
  if i = 0 then 16 else if i = 4 then 16 else if i = 7 then 64 else if i = 16 ∨ i = 17 then 255 else 0⟩

/-- one active slot with offset 8191 and size 0xFFFF -/
def hnswBigSlot : Buf := ⟨16384, fun i =>
  if i = 0 then 16 else if i = 4 then 16 else if i = 7 then 64 else if i = 16 then 1
  else if i = 64 then 255 else if i = 65 then 63 else if i = 66 ∨ i = 67 then 255 else 0⟩

theorem hnsw_slot_oob_counterexample :
    PageHdr.fromPage 16 hnswBigCount = .ok () ∧ PageHdr.hnswGetSlot hnswBigCount 4080 = .oob := by decide +kernel

theorem hnsw_node_oob_counterexample :
    PageHdr.fromPage 16 hnswBigSlot = .ok () ∧
    PageHdr.hnswGetSlot hnswBigSlot 0 = .ok (some (8191, 1, 65535)) ∧
    PageHdr.hnswReadNodeData hnswBigSlot 0 = .oob := by decide +kernel

theorem hnsw_slot_total_partial (b : Buf) (hp : PageHdr.fromPage 16 b = .ok ())
    (hc : b.get 16 + 256 * b.get 17 ≤ 4080) (i : Nat) : (PageHdr.hnswGetSlot b i).panics = false := by
  have hl := fromPage_len hp
  rw [PageHdr.hnswGetSlot, PageHdr.hnswSlotCount, slice_le (by decide) (le_page hl), bind_ok, bind_ok]
  -- the slot count is the little-endian `u16` at offset 16
  rw [show le ((bytes b 16 (68 - 16)).take 2) = b.get 16 + 256 * b.get 17 from rfl]
  exact ite_safe (fun _ => rfl) fun h => slice_bind (Nat.le_add_right _ _)
    (slot_fits (Nat.lt_of_not_le h) hc (le_page hl)) fun _ => rfl

/-! #### RecordView: no getter checks the record length -/

/-- the shortest record `RecordView::new` accepts (2 bytes) with a one-column INT4 schema:
`is_null` slices `data[2..3]`, `get_int4` slices `data[0..4]` -/
theorem recordview_get_oob_counterexample :
    RecordView.new (Buf.ofList [0, 0]) = .ok () ∧
    RecordView.isNull [some 4] (Buf.ofList [0, 0]) 0 = .oob ∧
    RecordView.getFixed [some 4] (Buf.ofList [0, 0]) 0 4 = .oob ∧
    RecordView.getBool [some 1] (Buf.ofList [2, 0]) 0 = .oob := by decide +kernel

/-- `is_null_or_missing` (the guard of the `get_*_opt` wrappers) does not protect the
variable-length getters: a 3-byte record with one TEXT column is "present, not null", and
`get_text_opt` reads the offset table at `data[3..5]` -/
theorem recordview_opt_oob_counterexample :
    RecordView.isNullOrMissing [none] (Buf.ofList [0, 0, 0]) 0 = .ok false ∧
    RecordView.opt [none] (Buf.ofList [0, 0, 0]) 0 (RecordView.getText [none] (Buf.ofList [0, 0, 0]) 0) = .oob := by decide +kernel

/-- a well-formed header with a corrupt end offset: `data[start..end]` past the buffer, and
with end < start ("slice index starts at 7 but ends at 6") -/
theorem recordview_offset_oob_counterexample :
    RecordView.getBlob [none] (Buf.ofList [5, 0, 0, 9, 0, 65]) 0 = .oob ∧
    RecordView.getVarBounds [none, none] (Buf.ofList [7, 0, 0, 2, 0, 1, 0, 65, 66]) 1 = .ok (9, 8) ∧
    RecordView.getBlob [none, none] (Buf.ofList [7, 0, 0, 2, 0, 1, 0, 65, 66]) 1 = .oob := by decide +kernel

/-- the domain on which a fixed-width getter is safe: the slice it takes lies inside the record -/
theorem recordview_get_fixed_partial (s : RecordView.Schema) (b : Buf) (col n : Nat)
    (hlen : 2 ≤ b.len) (hcol : col < s.length)
    (hfit : b.get 0 + 256 * b.get 1 + RecordView.fixedOffset s col + n ≤ b.len) :
    (RecordView.getFixed s b col n).panics = false := by
  rw [RecordView.getFixed, RecordView.fixedColOffset, RecordView.headerLen, rd16_le hlen, bind_ok, if_pos hcol,
    bind_ok]
  exact slice_safe (Nat.le_add_right _ _) hfit

/-- `record_column_count` itself is total on every record `new` accepts -/
theorem recordview_column_count_total (s : RecordView.Schema) (b : Buf)
    (h : RecordView.new b = .ok ()) : (RecordView.recordColumnCount s b).panics = false := by
  have hl : 2 ≤ b.len := by
    unfold RecordView.new at h
    split at h
    · cases h
    · split at h
      · cases h
      · omega
  rw [RecordView.recordColumnCount, RecordView.headerLen, rd16_le hl, bind_ok]
  exact ite_safe (fun _ => rfl) fun _ => rfl

/-! #### ArrayView: only `len ≥ 8` is checked -/

/-- 8-byte arrays: header says one INT4 element (no room for bitmap or data); header with an
unknown element type byte; header of a one-element TEXT array whose total_size is 0 -/
theorem array_oob_counterexample :
    ArrayView.new (Buf.ofList [0, 0, 0, 0, 2, 1, 1, 0]) = .ok () ∧
    ArrayView.isNull (Buf.ofList [0, 0, 0, 0, 2, 1, 1, 0]) 0 = .oob ∧
    ArrayView.getFixed (Buf.ofList [0, 0, 0, 0, 2, 1, 1, 0]) 0 4 = .oob := by decide +kernel

theorem array_elem_type_expect_counterexample :
    ArrayView.elemType (Buf.ofList [0, 0, 0, 0, 14, 1, 0, 0]) = .expect := by decide +kernel

theorem array_var_bounds_arith_counterexample :
    ArrayView.getBlob (Buf.ofList [0, 0, 0, 0, 20, 1, 1, 0, 0, 0, 0, 0, 0]) 0 = .arith := by decide +kernel

theorem array_new_total (b : Buf) : (ArrayView.new b).panics = false := ensure_safe

/-- `decode_varint` is total (re-export of C27) -/
theorem varint_decode_total (buf : List Nat) (hb : ∀ x ∈ buf, x < 256) :
    Varint.decode buf ≠ .oob := (C27.decode_total buf hb).1

/-- the shortest JSONB documents on which a reader of the C32 model reads out of bounds:
an object header announcing one pair with no entry table (`get`), an array header announcing
one element (`array_get`), a string root of length 1 without payload (`as_value`) -/
theorem jsonb_reader_oob_counterexample :
    Jsonb.viewNew [2, 0, 0, 0] = .ok [2, 0, 0, 0] ∧ Jsonb.get [2, 0, 0, 0] [97] = .oob ∧
    Jsonb.arrayGet [1, 0, 0, 16] 0 = .oob ∧ Jsonb.asValue [1, 0, 0, 80] = .oob := by decide +kernel

/-! #### catalog file: every read is guarded, every loop consumes input -/

/-- `CatalogPersistence::deserialize` is total on EVERY byte string and for every set of known
schema names: it returns a catalog or an error; it never reads outside the buffer and the
`while pos < len` loop never needs more than `len + 1` iterations (each schema record consumes
at least 4 bytes), whatever the table / column / constraint / index counts claim -/
theorem catalog_deserialize_total (b : Buf) (known : List (List Nat)) :
    (CatalogDec.deserialize b known).panics = false :=
  CatalogDec.desLoop_safe b known (b.len + 1) 0 (Nat.le_refl _)

/-- `deserialize_table`, started at any position, fails cleanly or ends at a position not before it
(`Lemmas/CatalogDec` has the same for every helper) -/
theorem catalog_table_total (b : Buf) (pos : Nat) :
    (CatalogDec.tableAt b pos).panics = false ∧
    ∀ t p, CatalogDec.tableAt b pos = .ok (t, p) → pos ≤ p :=
  CatalogDec.tableAt_ok b

/-- non-vacuity: a minimal document (schema `root`, no tables) deserializes -/
example : CatalogDec.deserialize (Buf.ofList [0, 0, 0, 0, 4, 0, 114, 111, 111, 116, 0, 0, 0, 0])
    [[114, 111, 111, 116]] = .ok [([114, 111, 111, 116], [])] := by decide +kernel

end TurVerif.C23
