/-
C22 — no input makes the library panic, abort or hang.  CLAIMED AS PARTIAL (DESIGN §5.C22).

Theorems (all inputs, no bound) about three M-code models of the front end:
* `TurVerif.Lexer` (src/sql/lexer.rs `next_token` and every scanner): on every input that is the byte string of
  a `&str`, `next_token` returns a token — no out-of-bounds read (`Fault.oob`), no `str` slicing panic
  (`Fault.slice`: range or char boundary), no `usize` underflow, and the comment recursion needs at most one
  frame per byte — and it consumes at least one byte or returns `Eof` at the end of the input; hence
  `tokenize` terminates with at most n+1 tokens.  The hypothesis `WF` is implied by UTF-8 validity and is
  necessary (`lexer_needs_wf_counterexample`).
* `TurVerif.Like` (`like_match_impl`): the greedy single-backtrack matcher terminates on all inputs within the
  stated iteration bound.
* `TurVerif.ArithImpl` (raw `i64` operators of `eval_binary_op`/`eval_unary_op` in the dev profile): they DO
  panic on in-range operands (`arith_panic_counterexample`, each witness reproduced on the real code by the
  harness); the checked specification `Sql.arith` never does, and the raw `+ - *` agree with it exactly
  except that its `overflow` error is a panic.

Everything else of C22 (parser, planner, executor, DDL, transactions, parameters, API sequences) is NOT
modelled: for it the check is search only (harness engine `robust`).
-/
import TurVerif.Lemmas.LexerScan
import TurVerif.Model.Like
import TurVerif.Model.ArithImpl
import TurVerif.Model.Sql

namespace TurVerif.C22
open TurVerif.Lexer TurVerif.LexerLemmas

theorem ite_ne {α : Type} {c : Prop} [Decidable c] {x y z : α} (hx : c → x ≠ z) (hy : ¬ c → y ≠ z) :
    (if c then x else y) ≠ z :=
  ite_cases (Q := (· ≠ z)) hx hy

theorem dispatch_post {bs : Bytes} (hwf : WF bs) {pos : Nat} (h : pos < bs.size) :
    PostS bs pos (dispatch bs pos) := by
  refine rd_elim h <|
    ite_cases (scanIdent_post hwf h) fun _ =>
    ite_cases (scanNumber_post hwf h) fun _ =>
    ite_cases (fun c => scanQuoted_post hwf h (eq_of_beq c) (by decide)) fun _ =>
    ite_cases (fun c => scanQuoted_post hwf h (eq_of_beq c) (by decide)) fun _ =>
    ite_cases (fun c => scanQuoted_post hwf h (eq_of_beq c) (by decide)) fun _ =>
    ite_cases (fun c => scanDollar_post hwf h (eq_of_beq c)) fun _ =>
    ite_cases (fun c => scanColon_post hwf h (eq_of_beq c)) fun _ =>
    ite_cases (fun c => scanAt_post hwf h (eq_of_beq c)) fun _ =>
    ite_elim (scanQuestion_post h) <|
    ite_elim (scanMinus_post h) <|
    ite_elim (scanSlash_post h) <|
    ite_elim (scanPair_post h) <|
    ite_elim (scanPair_post h) <|
    ite_elim (scanHash_post h) <|
    ite_elim (scanPair_post h) <|
    ite_elim (scanLess_post h) <|
    ite_elim (scanGreater_post h) <|
    ite_elim (scanPair_post h) <|
    ite_cases (fun c => scanDot_post hwf h (eq_of_beq c)) fun _ => ?_
  cases single (B bs pos) <;> exact Post_mk (Stop.first h)

/-- what `next_token` called at `pos` guarantees of its token: it starts at or after `pos`, lies inside the
input, and either is `Eof` at the end of the input or ends after `pos` -/
structure TokOk (bs : Bytes) (pos : Nat) (t : Tok) : Prop where
  after : pos ≤ t.start
  ordered : t.start ≤ t.stop
  inside : Inside bs t
  progress : (t.kind = .eof ∧ t.stop = bs.size) ∨ pos < t.stop

def NextOk (bs : Bytes) (pos : Nat) (r : Except Fault Tok) : Prop := ∃ t, r = .ok t ∧ TokOk bs pos t

/-- whitespace and comments are skipped forwards: what is fine for a later position is fine for an earlier one -/
theorem NextOk.weaken {bs : Bytes} {pos0 pos : Nat} {r : Except Fault Tok} (h : pos0 ≤ pos) :
    NextOk bs pos r → NextOk bs pos0 r
  | ⟨t, ht, g⟩ => ⟨t, ht, Nat.le_trans h g.after, g.ordered, g.inside, g.progress.imp_right (Nat.lt_of_le_of_lt h)⟩

/-- a budget of more frames than bytes are left is never used up: every skipped comment consumes a byte -/
theorem nextTok_post {bs : Bytes} (hwf : WF bs) : ∀ d pos, pos ≤ bs.size → bs.size < d + pos →
    NextOk bs pos (nextTok bs d pos)
  | 0, pos, h0, h => absurd (Nat.zero_add pos ▸ h) (Nat.not_lt_of_le h0)
  | d + 1, pos0, h0, hd => by
    refine scanWhile_elim h0 fun pos r => NextOk.weaken r.le (ite_cases (fun hge => ?_) fun hge => ?_)
    · exact ⟨_, rfl, Nat.le_refl _, Nat.le_refl _, ⟨r.le_size, Nat.le_refl _, Nat.zero_le _⟩,
        .inl ⟨rfl, Nat.le_antisymm r.le_size hge⟩⟩
    · rcases dispatch_post hwf (Nat.lt_of_not_le hge) with ⟨t, hr, hs, hp, hin⟩ | ⟨p, hr, hp1, hp2⟩ <;> rw [hr]
      · exact ⟨t, rfl, Nat.le_of_eq hs.symm, hs ▸ Nat.le_of_lt hp, hin, .inr hp⟩
      · exact (nextTok_post hwf d p hp2 (fuel_step hd (Nat.lt_of_le_of_lt r.le hp1))).weaken (Nat.le_of_lt hp1)

theorem nextToken_ok {bs : Bytes} (hwf : WF bs) {pos : Nat} (h : pos ≤ bs.size) : NextOk bs pos (nextToken bs pos) :=
  nextTok_post hwf _ pos h (Nat.lt_of_lt_of_le (Nat.lt_succ_self _) (Nat.le_add_right _ _))

/-- what the token loop started at `pos` guarantees -/
def ToksOk (bs : Bytes) (pos : Nat) (r : Except Fault (List Tok)) : Prop :=
  ∃ ts, r = .ok ts ∧ ts.length + pos ≤ bs.size + 1 ∧ (∃ t, ts.getLast? = some t ∧ t.kind = .eof) ∧
    ∀ t ∈ ts, Inside bs t

theorem tokenize_post {bs : Bytes} (hwf : WF bs) : ∀ f pos, pos ≤ bs.size → bs.size < f + pos →
    ToksOk bs pos (tokenize bs f pos)
  | 0, pos, h0, h => absurd (Nat.zero_add pos ▸ h) (Nat.not_lt_of_le h0)
  | f + 1, pos, h0, hf => by
    obtain ⟨t, ht, g⟩ := nextToken_ok hwf h0
    unfold tokenize
    rw [ht]
    refine ite_cases
      (fun he => ⟨[t], rfl, Nat.add_comm .. ▸ Nat.succ_le_succ h0, ⟨t, rfl, he⟩, fun t' h' => ?_⟩) fun he => ?_
    · cases List.mem_singleton.mp h'; exact g.inside
    · -- a token that is not `Eof` consumed a byte: one unit of fuel less suffices for the rest
      have hp : pos < t.stop := g.progress.resolve_left fun h => he h.1
      obtain ⟨ts, hts, hl, ⟨tl, htl, hk⟩, hall⟩ := tokenize_post hwf f t.stop g.inside.1 (fuel_step hf hp)
      rw [hts]
      refine ⟨t :: ts, rfl, ?_, ⟨tl, by rw [List.getLast?_cons, htl]; rfl, hk⟩, fun t' h' => ?_⟩
      · rw [List.length_cons, Nat.add_assoc, Nat.add_comm 1]
        exact Nat.le_trans (Nat.add_le_add_left hp _) hl
      · rcases List.mem_cons.mp h' with h' | h'
        · cases h'; exact g.inside
        · exact hall t' h'

/-- `Lexer::next_token` never faults on the bytes of a `&str`: no out-of-bounds index, no `str` slicing panic
(range or char boundary), no `usize` underflow, and the recursion over skipped comments stays within one frame
per remaining byte; the token lies inside the input and so does its payload slice. -/
theorem lexer_no_fault (bs : Bytes) (hwf : WF bs) (pos : Nat) (h : pos ≤ bs.size) :
    ∃ t, nextToken bs pos = .ok t ∧ pos ≤ t.start ∧ t.start ≤ t.stop ∧ t.stop ≤ bs.size ∧
      t.a ≤ t.b ∧ t.b ≤ bs.size :=
  let ⟨t, ht, g⟩ := nextToken_ok hwf h
  ⟨t, ht, g.after, g.ordered, g.inside⟩

/-- `next_token` consumes at least one byte or returns `Eof` (and then it is at the end of the input) -/
theorem lexer_progress (bs : Bytes) (hwf : WF bs) (pos : Nat) (h : pos ≤ bs.size) :
    ∃ t, nextToken bs pos = .ok t ∧ ((t.kind = .eof ∧ t.stop = bs.size) ∨ pos < t.stop) :=
  let ⟨t, ht, g⟩ := nextToken_ok hwf h
  ⟨t, ht, g.progress⟩

/-- the token loop terminates: at most n+1 tokens, the last one is `Eof`, every token and payload slice is inside
the input; `Fault.depth` (loop/recursion budget n+1) is never reached -/
theorem tokenize_terminates (bs : Bytes) (hwf : WF bs) :
    ∃ ts, tokenizeAll bs = .ok ts ∧ ts.length ≤ bs.size + 1 ∧ (∃ t, ts.getLast? = some t ∧ t.kind = .eof) ∧
      (∀ t ∈ ts, t.stop ≤ bs.size ∧ t.a ≤ t.b ∧ t.b ≤ bs.size) :=
  tokenize_post hwf (bs.size + 1) 0 (Nat.zero_le _) (Nat.lt_succ_self _)

/-- ASCII-only inputs are well formed (non-vacuity of `WF`; UTF-8 validity implies `WF` in general: a
continuation byte always follows a lead or continuation byte, both >= 0x80) -/
theorem wf_of_ascii (bs : Bytes) (h : ∀ i, i < bs.size → B bs i < 128) : WF bs := by
  intro i hi h1 _
  have := h i hi
  omega

/-- a multi-byte example: `'é'-- ü` -/
example : WF #[39, 195, 169, 39, 45, 45, 32, 195, 188] := by
  unfold WF B; decide

/-- `WF` is necessary: on a byte string that is not valid UTF-8 (an ASCII letter followed by a stray
continuation byte) the identifier slice `&input[0..1]` ends inside a "character" — the model reports the slicing
panic.  Such input cannot be passed through `&str`. -/
theorem lexer_needs_wf_counterexample : tokenizeAll #[97, 128] = .error .slice := by
  -- `scanWhile` is defined by well-founded recursion: only with everything unfolded does the run evaluate
  with_unfolding_all rfl

/-- the recursion `scan_minus` / `scan_block_comment` -> `next_token` costs one frame per consecutive comment
(3 line comments: 4 frames; 2 block comments: 3 frames), so the frame count is bounded only by the input length
(`lexer_no_fault`: at most n+1).  On the real code 100000 consecutive comments overflow the 8 MiB stack
(known finding C22-deep-nesting-stack-overflow, constructs line-comments / block-comments). -/
theorem comment_frames_witness :
    framesAt #[45, 45, 10, 45, 45, 10, 45, 45, 10] 10 0 = 4 ∧ framesAt #[47, 42, 42, 47, 47, 42, 42, 47] 9 0 = 3 := by
  -- the kernel evaluates the well-founded recursions of the scanners, `decide`'s own evaluator does not
  decide +kernel

/-- Every iteration of `like_match_impl` advances `ti`, or `pi`, or the backtrack point `starTi` (and then resets
`ti`, `pi` by less than `K = |t| + |p| + 2`), so `starTi * K + ti + pi` grows with each iteration and is at most
`|t| * K + |t| + |p|`. -/
theorem likeGo_some (t p : List Nat) : ∀ fuel ti pi star starTi,
    starTi ≤ ti → ti ≤ t.length → pi ≤ p.length → (∀ sp, star = some sp → sp < p.length) →
    t.length * (t.length + p.length + 2) + t.length + p.length
      < fuel + (starTi * (t.length + p.length + 2) + ti + pi) →
    Like.likeGo t p fuel ti pi star starTi ≠ none := by
  intro fuel
  generalize hK : t.length + p.length + 2 = K
  induction fuel with
  | zero =>
    intro ti pi star s h1 h2 h3 _ hm
    rw [Nat.zero_add] at hm
    exact absurd hm (Nat.not_lt_of_le
      (Nat.add_le_add (Nat.add_le_add (Nat.mul_le_mul_right K (Nat.le_trans h1 h2)) h2) h3))
  | succ f ih =>
    intro ti pi star s h1 h2 h3 h4 hm
    -- the three moves: match one byte; record a new backtrack point at `ti`; backtrack to `s + 1`
    have m1 := fuel_step hm (show _ < s * K + (ti + 1) + (pi + 1) from
      Nat.add_lt_add (Nat.add_lt_add_left (Nat.lt_succ_self ti) _) (Nat.lt_succ_self pi))
    have m2 := fuel_step hm (show _ < ti * K + ti + (pi + 1) from
      Nat.add_lt_add_of_le_of_lt (Nat.add_le_add_right (Nat.mul_le_mul_right K h1) ti) (Nat.lt_succ_self pi))
    have hlt : ti + pi < K := hK ▸ Nat.lt_succ_of_le (Nat.le_succ_of_le (Nat.add_le_add h2 h3))
    have m3 : ∀ sp, _ := fun sp => fuel_step hm (show _ < (s + 1) * K + (s + 1) + (sp + 1) from
      calc s * K + ti + pi = s * K + (ti + pi) := Nat.add_assoc ..
        _ < s * K + K := Nat.add_lt_add_left hlt _
        _ = (s + 1) * K := (Nat.add_one_mul ..).symm
        _ ≤ _ := Nat.le_add_right_of_le (Nat.le_add_right ..))
    refine ite_ne (fun hti => ite_ne (fun hc => ih _ _ _ _ (Nat.le_succ_of_le h1) hti hc.1 h4 m1) fun _ =>
        ite_ne (fun hc => ih _ _ _ _ (Nat.le_refl _) h2 hc.1 (fun sp hsp => by cases hsp; exact hc.1) m2) fun _ => ?_)
      fun _ => Option.some_ne_none _
    cases star with
    | none => exact Option.some_ne_none _
    | some sp => exact ih _ _ _ _ (Nat.le_refl _) (Nat.lt_of_le_of_lt h1 hti) (h4 sp rfl) h4 (m3 sp)

theorem like_terminates (t p : List Nat) : Like.likeImpl t p ≠ none := by
  have := Nat.add_mul t.length 2 (t.length + p.length + 2)
  exact likeGo_some t p _ 0 0 none 0 (Nat.le_refl _) (Nat.zero_le _) (Nat.zero_le _) (fun sp h => by cases h)
    (by unfold Like.fuelFor; omega)

open TurVerif.ArithImpl in
/-- the raw `i64` operators of the engine panic on concrete in-range operands (dev profile): the statement
"integer arithmetic never panics" is FALSE of the faithful model; every witness is reproduced on the real code -/
theorem arith_panic_counterexample :
    binImpl .add 9223372036854775807 1 = .panic msgAdd ∧
    binImpl .sub (-9223372036854775808) 1 = .panic msgSub ∧
    binImpl .mul 4611686018427387904 2 = .panic msgMul ∧
    binImpl .div (-9223372036854775808) (-1) = .panic msgDiv ∧
    binImpl .mod (-9223372036854775808) (-1) = .panic msgRem ∧
    negImpl (-9223372036854775808) = .panic msgNeg ∧
    binImpl .pow 2 63 = .panic msgMul ∧
    binImpl .pow 3037000500 2 = .panic msgMul :=
  ⟨rfl, rfl, rfl, rfl, rfl, rfl, rfl, rfl⟩

open TurVerif.ArithImpl in
theorem arith_no_panic_is_false :
    ¬ (∀ op a b, inRange a = true → inRange b = true → (binImpl op a b).isPanic = false) :=
  fun h => nomatch (congrArg Out.isPanic arith_panic_counterexample.1).symm.trans (h .add _ _ rfl rfl)

/-- outcome class of the checked specification: an in-range integer or one of three errors -/
def CheckedOut (r : Except Sql.Err Sql.Val) : Prop :=
  match r with
  | .ok (.int v) => Sql.i64Min ≤ v ∧ v ≤ Sql.i64Max
  | .ok _ => False
  | .error e => e = .overflow ∨ e = .divzero ∨ e = .type

theorem chk_ok (x : Int) : CheckedOut (Sql.chkInt x) := by
  by_cases h : Sql.i64Min ≤ x ∧ x ≤ Sql.i64Max <;> simp [Sql.chkInt, h, CheckedOut]

/-- the checked arithmetic (`Sql.arith`, the specification) is total on integers: an in-range value or an
error value, never a panic outcome and never a wrapped result -/
theorem checked_never_panics (op : Sql.BinOp) (a b : Int) :
    CheckedOut (Sql.arith op (.int a) (.int b)) := by
  have zero : ∀ x : Int, CheckedOut (if b = 0 then .error .divzero else Sql.chkInt x) := fun x => by
    split
    · exact .inr (.inl rfl)
    · exact chk_ok x
  cases op
  case add => exact chk_ok (a + b)
  case sub => exact chk_ok (a - b)
  case mul => exact chk_ok (a * b)
  case div => exact zero _
  case mod => exact zero _
  all_goals exact .inr (.inr rfl)

/-- what an outcome of the checked spec means for the raw operator -/
def ofChecked (msg : String) (r : Except Sql.Err Sql.Val) : ArithImpl.Out :=
  match r with
  | .ok (.int v) => .int v
  | .ok _ => .null
  | .error .divzero => .null
  | .error _ => .panic msg

open TurVerif.ArithImpl in
theorem ovf_eq (msg : String) (x : Int) : ovf msg x = ofChecked msg (Sql.chkInt x) := by
  have hb : (inRange x = true) ↔ (Sql.i64Min ≤ x ∧ x ≤ Sql.i64Max) := by
    simp only [inRange, i64Min, i64Max, Sql.i64Min, Sql.i64Max, Bool.and_eq_true]
    constructor
    · intro h; exact ⟨of_decide_eq_true h.1, of_decide_eq_true h.2⟩
    · intro h; exact ⟨decide_eq_true h.1, decide_eq_true h.2⟩
  by_cases h : Sql.i64Min ≤ x ∧ x ≤ Sql.i64Max
  · rw [ovf, if_pos (hb.mpr h), Sql.chkInt, if_pos h]; rfl
  · rw [ovf, if_neg (mt hb.mp h), Sql.chkInt, if_neg h]; rfl

open TurVerif.ArithImpl in
/-- the raw `+ - *` compute exactly the checked specification, with its `overflow` error as a panic: the engine
panics exactly where the specification reports overflow -/
theorem impl_refines_checked (a b : Int) :
    binImpl .add a b = ofChecked msgAdd (Sql.arith .add (.int a) (.int b)) ∧
    binImpl .sub a b = ofChecked msgSub (Sql.arith .sub (.int a) (.int b)) ∧
    binImpl .mul a b = ofChecked msgMul (Sql.arith .mul (.int a) (.int b)) := by
  refine ⟨?_, ?_, ?_⟩ <;> (simp only [binImpl, Sql.arith]; exact ovf_eq _ _)

open TurVerif.ArithImpl in
/-- each iteration halves the exponent, so `fuel` iterations serve every exponent below `2 ^ fuel` -/
theorem powLoop_fuel : ∀ (fuel e : Nat) (base acc : Int), 0 < e → e < 2 ^ fuel →
    powLoop fuel e base acc ≠ .panic "fuel"
  | 0, e, _, _, h0, h1 => absurd h1 (Nat.not_lt_of_le h0)
  | f + 1, e, _, _, h0, h1 => by
    have hdiv : e / 2 < 2 ^ f := Nat.div_lt_of_lt_mul (by rw [Nat.mul_comm, ← Nat.pow_succ]; exact h1)
    have half : e ≠ 1 → 0 < e / 2 := fun hne => Nat.div_pos (Nat.lt_of_le_of_ne h0 (Ne.symm hne)) (by decide)
    have ovf : Out.panic msgMul ≠ .panic "fuel" := by decide +kernel
    exact ite_ne
      (fun _ => ite_ne (fun _ => ovf) fun _ => ite_ne (fun _ => nofun) fun hne =>
        ite_ne (fun _ => ovf) fun _ => powLoop_fuel f _ _ _ (half hne) hdiv)
      fun hodd => ite_ne (fun _ => ovf) fun _ => powLoop_fuel f _ _ _ (half fun he => hodd (by rw [he])) hdiv

open TurVerif.ArithImpl in
/-- the transcription of `i64::pow` needs no more than its 33 iterations (the model's `fuel` outcome is
unreachable): `a.pow(b as u32)` returns a value or panics with the multiplication-overflow message -/
theorem pow_total (a b : Int) : powImpl a b ≠ .panic "fuel" := by
  unfold powImpl
  refine ite_ne (fun _ => ite_ne (fun _ => nofun) fun h => powLoop_fuel _ _ _ _ (Nat.pos_of_ne_zero h) ?_) fun _ => nofun
  exact Nat.lt_trans (Nat.mod_lt _ (by decide)) (by decide)

end TurVerif.C22
