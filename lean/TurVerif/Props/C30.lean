import TurVerif.Lemmas.Simd
/-!
C30  Vectorized leaf search equals binary search.

Theorems about the M-code model `TurVerif.Simd` (transcribed from src/btree/simd_scan.rs and
`extract_prefix` of src/btree/leaf.rs).

  * scalar dispatch path (`findScalar`): correct on every well-formed leaf  (`scalar_correct`)
  * AVX2 path after fix_simd.patch (`findAvx2`): correct on every well-formed leaf (`avx2_correct`)
  * AVX2 path of the pinned tree (`findAvx2Old`): correct on the decidable domain
    `hazardOld L (prefixOf k) = 0` (`avx2_correct_partial`), which contains every probe whose
    prefix is not a slot prefix (`avx2_correct_no_ties`); the full statement is false
    (`avx2_counterexample*`).
-/
namespace TurVerif.C30
open TurVerif.Simd

theorem avx2Old_no_hazard_of_no_ties {L : Leaf} (t : Nat) (hno : ∀ i, i < L.n → L.pfx i ≠ t) :
    ∀ f l r, avx2OldHazard L t f l r = 0 := by
  intro f
  induction f with
  | zero => intro l r; rfl
  | succ f ih =>
    intro l r
    rw [avx2OldHazard]
    extract_lets bs mlt
    clear_value mlt
    by_cases hbn : bs + 8 > L.n
    · rw [if_pos hbn, ite_self]
    -- the batch lies inside the leaf, so neither hazard test can find the target prefix
    · simp only [ih, hno bs (by omega), hno (bs + 7) (by omega), false_and, if_false, ite_self]

def cexLeaf8 : Leaf :=
  { n := 8, pfx := fun _ => 0, off := fun i => 16384 - 6 * (i + 1), key := fun i => [0, 0, 0, 0, i] }

def cexLeaf9 : Leaf :=
  { n := 9
    pfx := fun i => if i = 0 then 268435456 else 2147483648
    off := fun i => 16384 - 6 * (i + 1)
    key := fun i => if i = 0 then [16, 0, 0, 0] else [128, 0, 0, 0, i] }

def cexLeaf121 : Leaf :=
  { n := 121, pfx := fun _ => 0, off := fun i => 16384 - 9 * (i + 1)
    key := fun i => [0, 0, 0, 0, 0, 0, 0, 2 * i] }

def okLeaf16 : Leaf :=
  { n := 16, pfx := fun i => (3 * i + 1) * 16777216, off := fun i => 16384 - 5 * (i + 1)
    key := fun i => [3 * i + 1, 0, 0, 0] }

/-- well-formedness read slot by slot, as a decidable check on a concrete leaf -/
theorem wf_of_slots {L : Leaf} (hn : L.n ≤ 2045)
    (h : ∀ i, i < L.n → L.pfx i = prefixOf (L.key i) ∧ (∀ b ∈ L.key i, b < 256) ∧
      L.off i + (L.key i).length ≤ PAGE_SIZE ∧
      (i + 1 < L.n → cmpBytes (L.key i) (L.key (i + 1)) = .lt)) : WF L :=
  ⟨hn, fun i hi => (h i hi).1, fun i hi => (h i hi).2.1, fun i hi => (h i hi).2.2.1,
    fun i hi => (h i (by omega)).2.2.2 hi⟩

theorem cexLeaf8_wf : WF cexLeaf8 := wf_of_slots (by decide) (by decide)

theorem cexLeaf9_wf : WF cexLeaf9 := wf_of_slots (by decide) (by decide)

theorem cexLeaf121_wf : WF cexLeaf121 := by
  refine wf_of_slots (by decide) fun i hi => ?_
  simp only [cexLeaf121] at hi ⊢
  exact ⟨by simp [prefixOf, byteAt], by simp; omega, by simp [PAGE_SIZE]; omega,
    fun _ => by simp [cmpBytes]⟩

theorem okLeaf16_wf : WF okLeaf16 := wf_of_slots (by decide) (by decide)

/-- The M-spec is the binary-search answer: `Found i` exactly at the slot holding the probe,
otherwise `NotFound i` with every key left of `i` smaller and every key from `i` on greater. -/
theorem spec_sound {L : Leaf} (w : WF L) (k : List Nat) :
    match spec L k with
    | .found m => m < L.n ∧ L.key m = k
    | .notFound m => m ≤ L.n ∧ Below L k m ∧ Above L k m := by
  have h := specFrom_sound (L := L) k L.n 0 (by omega) (fun j hj => by omega)
  unfold spec
  cases hs : specFrom L k L.n 0 with
  | found m => rw [hs] at h; exact h
  | notFound m =>
    rw [hs] at h
    simp only at h ⊢
    refine ⟨h.1, h.2.1, ?_⟩
    intro j hj hjn
    exact above_step w (by omega) (h.2.2 (by omega)) j hj hjn

/-- `narrow_sound` (scalar): the range returned by `simd_prefix_search_scalar` brackets the answer:
every key left of it is smaller than the probe, every key right of it is greater. -/
theorem narrow_sound_scalar {L : Leaf} (w : WF L) {k : List Nat} (hk : BytesOK k) :
    let x := narrowScalar L (prefixOf k)
    x.1 ≤ x.2.1 ∧ x.2.1 ≤ L.n ∧ Below L k x.1 ∧ Above L k x.2.1 := by
  have h := narrowScalar_bracket w hk
  exact ⟨h.lr, h.rn, h.below, h.above⟩

/-- `narrow_sound` (AVX2 after fix_simd.patch) -/
theorem narrow_sound_avx2 {L : Leaf} (w : WF L) {k : List Nat} (hk : BytesOK k) :
    let x := narrowAvx2 L (prefixOf k)
    x.1 ≤ x.2 ∧ x.2 ≤ L.n ∧ Below L k x.1 ∧ Above L k x.2 := by
  have h := narrowAvx2_bracket w hk
  exact ⟨h.lr, h.rn, h.below, h.above⟩

/-- C30, scalar dispatch path, full strength: on every well-formed leaf and every probe the search
returns the binary-search answer. -/
theorem scalar_correct {L : Leaf} (w : WF L) {k : List Nat} (hk : BytesOK k) :
    findScalar L k = spec L k :=
  find_correct w hk (narrowScalar_bracket w hk)

/-- C30, AVX2 dispatch path after fix_simd.patch, full strength. -/
theorem avx2_correct {L : Leaf} (w : WF L) {k : List Nat} (hk : BytesOK k) :
    findAvx2 L k = spec L k :=
  find_correct w hk (narrowAvx2_bracket w hk)

/- Full statement for the pinned tree, FALSE of the faithful model (see `avx2_counterexample`):
     theorem avx2Old_correct (w : WF L) (hk : BytesOK k) : findAvx2Old L k = spec L k
   What is missing: the `lt_mask == 0` branch sets `right = batch_start` although lane 0 may hold the
   probe's prefix, and the mixed branch sets `right = batch_start + last_eq_idx + 1` although the run
   of equal prefixes may continue after lane 7. `hazardOld` decides whether the loop takes such a step. -/

/-- C30, AVX2 dispatch path of the pinned tree, on the decidable domain "the narrowing loop takes no
hazardous step" (`hazardOld = 0`). -/
theorem avx2_correct_partial {L : Leaf} (w : WF L) {k : List Nat} (hk : BytesOK k)
    (hz : hazardOld L (prefixOf k) = 0) : findAvx2Old L k = spec L k :=
  find_correct w hk (narrowAvx2Old_bracket w hk hz)

/-- ... in particular whenever no slot carries the probe's 4-byte prefix (no prefix ties). -/
theorem avx2_correct_no_ties {L : Leaf} (w : WF L) {k : List Nat} (hk : BytesOK k)
    (hno : ∀ i, i < L.n → L.pfx i ≠ prefixOf k) : findAvx2Old L k = spec L k := by
  apply avx2_correct_partial w hk
  unfold hazardOld
  split
  · rfl
  · exact avx2Old_no_hazard_of_no_ties _ hno _ _ _

/-- The full statement is false for the pinned AVX2 code: eight keys sharing one 4-byte prefix, probe =
the last key. `lt_mask == 0` ⇒ `right = 0` ⇒ `NotFound(0)`, binary search says `Found(7)`. -/
theorem avx2_counterexample :
    WF cexLeaf8 ∧ BytesOK [0, 0, 0, 0, 7] ∧
    findAvx2Old cexLeaf8 [0, 0, 0, 0, 7] = .notFound 0 ∧ spec cexLeaf8 [0, 0, 0, 0, 7] = .found 7 ∧
    hazardOld cexLeaf8 (prefixOf [0, 0, 0, 0, 7]) = 1 :=
  ⟨cexLeaf8_wf, by unfold BytesOK; decide, by decide, by decide, by decide⟩

/-- Second defect: mixed batch whose equal-prefix run reaches lane 7 and continues in the next slot
(slot 8 holds the probe): `NotFound(8)` instead of `Found(8)`. -/
theorem avx2_counterexample_tie_past_batch :
    WF cexLeaf9 ∧ BytesOK [128, 0, 0, 0, 8] ∧
    findAvx2Old cexLeaf9 [128, 0, 0, 0, 8] = .notFound 8 ∧ spec cexLeaf9 [128, 0, 0, 0, 8] = .found 8 ∧
    hazardOld cexLeaf9 (prefixOf [128, 0, 0, 0, 8]) = 2 :=
  ⟨cexLeaf9_wf, by unfold BytesOK; decide, by decide, by decide, by decide⟩

/-- The repository's own failing test `test_simd_bug_repro`: 121 big-endian u64 keys 0,2,…,240 and
probe 242; the pinned AVX2 path answers `NotFound(0)`, binary search `NotFound(121)`. -/
theorem avx2_counterexample_repo_test :
    WF cexLeaf121 ∧ BytesOK [0, 0, 0, 0, 0, 0, 0, 242] ∧
    findAvx2Old cexLeaf121 [0, 0, 0, 0, 0, 0, 0, 242] = .notFound 0 ∧
    spec cexLeaf121 [0, 0, 0, 0, 0, 0, 0, 242] = .notFound 121 :=
  ⟨cexLeaf121_wf, by unfold BytesOK; decide, by decide +kernel, by decide +kernel⟩

/-- "regardless of CPU feature availability", stated outright: on every well-formed leaf and every
probe the AVX2 dispatch path (after fix_simd.patch) and the scalar dispatch path return the SAME
found position / insertion point -/
theorem dispatch_independent {L : Leaf} (w : WF L) {k : List Nat} (hk : BytesOK k) :
    findAvx2 L k = findScalar L k :=
  (avx2_correct w hk).trans (scalar_correct w hk).symm

/-- The fuel bounds in the model entry points never cut a loop short: with any larger fuel the three
narrowing loops and the final search return the same result (so the model loops stop for the same
reason as the `while` loops of the code). -/
theorem fuel_irrelevant (L : Leaf) (k : List Nat) (t f : Nat) (hf : L.n ≤ f) :
    scalarLoop L t f 0 L.n = scalarLoop L t L.n 0 L.n ∧
    avx2Loop L t f 0 L.n = avx2Loop L t L.n 0 L.n ∧
    avx2OldLoop L t f 0 L.n = avx2OldLoop L t L.n 0 L.n ∧
    ∀ l r, finalLoop L k t (f + 1) l (min r L.n) = finalLoop L k t (L.n + 1) l (min r L.n) := by
  refine ⟨scalarLoop_fuel L t _ _ _ _ (by omega) (by omega),
    avx2Loop_fuel L t _ _ _ _ (by omega) (by omega),
    avx2OldLoop_fuel L t _ _ _ _ (by omega) (by omega), ?_⟩
  intro l r
  have : min r L.n ≤ L.n := Nat.min_le_right _ _
  exact finalLoop_fuel L k t _ _ _ _ (by omega) (by omega)

/-- non-vacuity of `avx2_correct_partial`: a 16-slot leaf and a stored probe on which the vectorised
loop runs, takes no hazardous step and finds the key. -/
example : WF okLeaf16 ∧ BytesOK [25, 0, 0, 0] ∧ hazardOld okLeaf16 (prefixOf [25, 0, 0, 0]) = 0 ∧
    findAvx2Old okLeaf16 [25, 0, 0, 0] = .found 8 ∧ narrowAvx2Old okLeaf16 (prefixOf [25, 0, 0, 0]) = (7, 9) :=
  ⟨okLeaf16_wf, by unfold BytesOK; decide, by decide, by decide, by decide⟩

/-- the fixed code on the three witnesses -/
example : findAvx2 cexLeaf8 [0, 0, 0, 0, 7] = .found 7 ∧ findAvx2 cexLeaf9 [128, 0, 0, 0, 8] = .found 8 ∧
    findAvx2 cexLeaf121 [0, 0, 0, 0, 0, 0, 0, 242] = .notFound 121 :=
  ⟨by decide, by decide, by decide +kernel⟩

end TurVerif.C30
