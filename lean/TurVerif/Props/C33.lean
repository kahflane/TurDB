import TurVerif.Model.RowSerde
import TurVerif.Model.SubSpill
import TurVerif.Lemmas.RowSerde
/-!
C33  Spilled rows round-trip through the spill format.
Theorems about the M-code model `TurVerif.RowSerde` (src/sql/row_serde.rs + the sequential reader
of src/sql/partition_spiller.rs).  The second spill format, `TurVerif.SubSpill`
(src/sql/subquery/spill.rs), is tied to the code by the correspondence run only: no theorem here is
about it.
-/
namespace TurVerif.C33
open TurVerif.RowSerde

/-- What `serializeFloat` writes: a bare tag that decodes to the normal form of `f`, or a sign tag
followed by the bits of `f`, which is then its own normal form. -/
theorem serializeFloat_spec (var : Variant) (f : Nat) :
    (∃ d, serializeFloat var f = [d] ∧ floatSize var f = 1 ∧
      ∀ data off, deserializeBody data d off = .ok (norm var (.float f)) off) ∨
    (∃ d, (d = 0x13 ∨ d = 0x15) ∧ serializeFloat var f = d :: beBytes 8 f ∧
      floatSize var f = 1 + 8 ∧ norm var (.float f) = .float f) := by
  by_cases h1 : isNan f = true
  · exact .inl ⟨0x19, by cases var <;> simp [serializeFloat, h1], by cases var <;> simp [floatSize, h1],
      fun _ _ => by simp [deserializeBody, norm, h1]⟩
  by_cases h2 : f = F64_NEG_INF
  · subst h2
    exact .inl ⟨0x10, by cases var <;> decide, by cases var <;> decide,
      fun _ _ => by cases var <;> simp [deserializeBody, norm] <;> decide⟩
  by_cases h3 : f = F64_INF
  · subst h3
    exact .inl ⟨0x18, by cases var <;> decide, by cases var <;> decide,
      fun _ _ => by cases var <;> simp [deserializeBody, norm] <;> decide⟩
  cases var with
  | fix =>
    have hz : floatSize .fix f = 1 + 8 := by simp [floatSize, h1, h2, h3]
    have hn : norm .fix (.float f) = .float f := by simp [norm, h1]
    by_cases h4 : F64_NEG_ZERO ≤ f
    · exact .inr ⟨0x13, .inl rfl, by simp [serializeFloat, h1, h2, h3, h4], hz, hn⟩
    · exact .inr ⟨0x15, .inr rfl, by simp [serializeFloat, h1, h2, h3, h4], hz, hn⟩
  | cur =>
    by_cases h5 : fEqZero f = true
    · have h4 : ¬ fLtZero f = true := by
        rw [fLtZero_iff]; rw [fEqZero_iff] at h5; omega
      exact .inl ⟨0x14, by simp [serializeFloat, h1, h2, h3, h4, h5], by simp [floatSize, h5],
        fun _ _ => by simp [deserializeBody, norm, h1, h5]⟩
    have hz : floatSize .cur f = 1 + 8 := by simp [floatSize, h1, h2, h3, h5]
    have hn : norm .cur (.float f) = .float f := by simp [norm, h1, h5]
    by_cases h4 : fLtZero f = true
    · exact .inr ⟨0x13, .inl rfl, by simp [serializeFloat, h1, h2, h3, h4], hz, hn⟩
    · exact .inr ⟨0x15, .inr rfl, by simp [serializeFloat, h1, h2, h3, h4, h5], hz, hn⟩

/-- fixed-size arrays have their size (the only part of `WF` the size computation needs) -/
def Shape : Value → Prop
  | .uuid b => b.length = 16
  | .macaddr b => b.length = 6
  | .inet4 b => b.length = 4
  | .inet6 b => b.length = 16
  | _ => True

theorem shape_of_wf (v : Value) (h : v.WF) : Shape v := by
  cases v <;> simp only [Shape, Value.WF] at h ⊢ <;> exact h

theorem value_size_eq (var : Variant) (v : Value) (hs : Shape v) :
    (serializeValue var v).length = valueSize var v := by
  cases v with
  | float f =>
    rcases serializeFloat_spec var f with ⟨d, hs, hz, _⟩ | ⟨d, _, hs, hz, _⟩ <;>
      simp [serializeValue, valueSize, hs, hz]
  | int i =>
    simp only [serializeValue, valueSize]
    by_cases h1 : I64_SIGN ≤ i
    · have : i ≠ 0 := by simp only [I64_SIGN] at h1; omega
      simp [h1, this]
    · by_cases h2 : i = 0 <;> simp [h1, h2]
  | vector v =>
    simp +arith only [serializeValue, valueSize, List.length_cons, List.length_append, beBytes_length,
      flatMap_beBytes4_length]
  | uuid b | macaddr b | inet4 b | inet6 b =>
    simp only [Shape] at hs; simp [serializeValue, valueSize, hs]
  | _ => simp +arith [serializeValue, valueSize]

theorem values_size_eq (var : Variant) (vs : List Value) (hs : ∀ v ∈ vs, Shape v) :
    (serializeValues var vs).length = valuesSize var vs := by
  induction vs with
  | nil => simp [serializeValues, valuesSize]
  | cons v vs ih =>
    simp [serializeValues, valuesSize, value_size_eq var v (hs v (by simp)),
      ih (fun w hw => hs w (by simp [hw]))]

theorem value_roundtrip_at (var : Variant) (v : Value) (hwf : v.WF) {data rest : List Nat} {off : Nat}
    (h : At data off (serializeValue var v ++ rest)) :
    deserializeValue data off = .ok (norm var v) (off + valueSize var v) := by
  cases v <;> simp only [serializeValue, Value.WF, List.cons_append, List.append_assoc] at h hwf
  case null => rw [dv_step h]; simp [deserializeBody, norm, valueSize]
  case int i =>
    have hv := beVal_beBytes 8 i hwf
    have hl := beBytes_length 8 i
    by_cases h1 : I64_SIGN ≤ i
    · rw [if_pos h1] at h
      have : i ≠ 0 := by simp only [I64_SIGN] at h1; omega
      rw [dv_step h, body_int8 (.inl rfl) h.tail hl, hv]
      simp [norm, valueSize, this]
    rw [if_neg h1] at h
    by_cases h2 : i = 0
    · rw [if_pos h2] at h
      rw [dv_step h]; simp [deserializeBody, norm, valueSize, h2]
    · rw [if_neg h2] at h
      rw [dv_step h, body_int8 (.inr rfl) h.tail hl, hv]
      simp [norm, valueSize, h2]
  case float f =>
    simp only [valueSize]
    rcases serializeFloat_spec var f with ⟨d, hs, hz, hb⟩ | ⟨d, hd, hs, hz, hn⟩
    · rw [hs] at h
      rw [dv_step h, hb, hz]
    · rw [hs] at h
      rw [dv_step h, body_float8 hd h.tail (beBytes_length 8 f), beVal_beBytes 8 f hwf, hz, hn,
        Nat.add_assoc]
  case text s =>
    rw [dv_step h]
    simp [deserializeBody, readLenPrefixed_at _ h.tail (beBytes_length _ _) (u32_roundtrip hwf.1), hwf.2,
      norm, valueSize]
    omega
  case blob s | jsonb s | toast s =>
    rw [dv_step h]
    simp [deserializeBody, readLenPrefixed_at _ h.tail (beBytes_length _ _) (u32_roundtrip hwf),
      norm, valueSize]
    omega
  case vector v =>
    have h1 := h.tail
    have h2 := h1.adv_be
    rw [dv_step h]
    simp [deserializeBody, h1.not_lt (beBytes_length 4 _), h1.rd_be, u32_roundtrip hwf.1,
      h2.not_lt (flatMap_beBytes4_length v), readF32s_at v hwf.2 [] h2, norm, valueSize]
    omega
  case uuid b | macaddr b | inet4 b | inet6 b =>
    rw [dv_step h]
    simp [deserializeBody, h.tail.not_lt hwf, h.tail.rd hwf, norm, valueSize]
  case timestamptz a b | point a b | enum a b | decimal a b =>
    have h1 := h.tail
    have h2 := h1.adv_be
    rw [dv_step h]
    simp [deserializeBody, h1.rd_be, h2.rd_be, beVal_beBytes, hwf, norm, valueSize]
    rw [h1.length_eq]
    simp +arith
  case interval a b c | circle a b c =>
    have h1 := h.tail
    have h2 := h1.adv_be
    have h3 := h2.adv_be
    rw [dv_step h]
    simp [deserializeBody, h1.rd_be, h2.rd_be, h3.rd_be, beVal_beBytes, hwf, norm, valueSize]
    rw [h1.length_eq]
    simp +arith
  case geobox a b c d =>
    have h1 := h.tail
    have h2 := h1.adv_be
    have h3 := h2.adv_be
    have h4 := h3.adv_be
    rw [dv_step h]
    simp [deserializeBody, h1.rd_be, h2.rd_be, h3.rd_be, h4.rd_be, beVal_beBytes, hwf, norm, valueSize]
    rw [h1.length_eq]
    simp +arith

theorem value_roundtrip (var : Variant) (v : Value) (hwf : v.WF) (p rest : List Nat) :
    deserializeValue (p ++ (serializeValue var v ++ rest)) p.length
      = .ok (norm var v) (p.length + valueSize var v) :=
  value_roundtrip_at var v hwf (at_append p _)

theorem values_roundtrip_at (var : Variant) (vs : List Value) (hwf : ∀ v ∈ vs, v.WF)
    {data rest : List Nat} : ∀ {off : Nat} (acc : List Value),
      At data off (serializeValues var vs ++ rest) →
      deserializeValues data vs.length off acc
        = .ok (acc.reverse ++ vs.map (norm var)) (off + valuesSize var vs) := by
  induction vs with
  | nil => intro off acc _; simp [deserializeValues, valuesSize]
  | cons v vs ih =>
    intro off acc h
    have hv : v.WF := hwf v (by simp)
    rw [serializeValues, List.append_assoc] at h
    simp only [List.length_cons, deserializeValues, value_roundtrip_at var v hv h,
      ih (fun w hw => hwf w (by simp [hw])) _ (value_size_eq var v (shape_of_wf v hv) ▸ h.adv rfl)]
    simp [valuesSize, Nat.add_assoc]

theorem row_step {data cb l : List Nat} {off : Nat} (h : At data off (cb ++ l)) (hc : cb.length = 2) :
    deserializeRow data off = deserializeValues data (beVal cb) (off + 2) [] := by
  rw [deserializeRow, if_neg (h.not_lt hc), h.rd hc]

theorem row_roundtrip_at (var : Variant) (row : List Value) (hwf : RowWF row) {data rest : List Nat}
    {off : Nat} (h : At data off (serializeRow var row ++ rest)) :
    deserializeRow data off = .ok (row.map (norm var)) (off + rowSize var row) := by
  rw [serializeRow, List.append_assoc] at h
  have hl := beBytes_length 2 (u16 row.length)
  have hcnt : beVal (beBytes 2 (u16 row.length)) = row.length := by
    rw [beVal_beBytes 2 _ (by unfold u16; omega)]; unfold u16; have := hwf.1; omega
  rw [row_step h hl, hcnt, values_roundtrip_at var row hwf.2 [] (h.adv hl)]
  simp [rowSize, Nat.add_assoc]

/-- SIZE: the computed size equals the number of bytes written (rows whose fixed-size arrays have
their size, which the Rust types guarantee). -/
theorem size_eq (var : Variant) (row : List Value) (hs : ∀ v ∈ row, Shape v) :
    (serializeRow var row).length = rowSize var row := by
  simp [serializeRow, rowSize, values_size_eq var row hs]

/-- ROUND TRIP, exact characterisation (both variants): a well-formed row, serialised anywhere in
a buffer, deserialises to `row.map norm` and the offset advances by exactly `rowSize`. -/
theorem roundtrip_norm (var : Variant) (row : List Value) (hwf : RowWF row) (p rest : List Nat) :
    deserializeRow (p ++ (serializeRow var row ++ rest)) p.length
      = .ok (row.map (norm var)) (p.length + rowSize var row) :=
  row_roundtrip_at var row hwf (at_append p _)

def serializeRows (var : Variant) : List (List Value) → List Nat
  | [] => []
  | r :: rs => serializeRow var r ++ serializeRows var rs

def rowsSize (var : Variant) : List (List Value) → Nat
  | [] => 0
  | r :: rs => rowSize var r + rowsSize var rs

theorem rows_roundtrip_at (var : Variant) (rows : List (List Value)) (hwf : ∀ r ∈ rows, RowWF r)
    {data rest : List Nat} : ∀ {off : Nat} (acc : List (List Value)),
      At data off (serializeRows var rows ++ rest) →
      deserializeRows data rows.length off acc
        = .ok (acc.reverse ++ rows.map (fun r => r.map (norm var))) (off + rowsSize var rows) := by
  induction rows with
  | nil => intro off acc _; simp [deserializeRows, rowsSize]
  | cons r rs ih =>
    intro off acc h
    have hr : RowWF r := hwf r (by simp)
    rw [serializeRows, List.append_assoc] at h
    simp only [List.length_cons, deserializeRows, row_roundtrip_at var r hr h,
      ih (fun w hw => hwf w (by simp [hw])) _
        (size_eq var r (fun v hv => shape_of_wf v (hr.2 v hv)) ▸ h.adv rfl)]
    simp [rowsSize, Nat.add_assoc]

/-- CONCATENATION: a buffer of n serialised rows (preceded by any header `p`, e.g. the 16-byte
spill-file header, and followed by anything) decodes, by n sequential `deserialize_row_into`
calls sharing one offset, to the n rows in order (each normalised by `norm`), and the final
offset is the sum of the computed sizes. -/
theorem concat_decode (var : Variant) (rows : List (List Value)) (hwf : ∀ r ∈ rows, RowWF r)
    (p rest : List Nat) :
    deserializeRows (p ++ (serializeRows var rows ++ rest)) rows.length p.length []
      = .ok (rows.map (fun r => r.map (norm var))) (p.length + rowsSize var rows) := by
  simpa using rows_roundtrip_at var rows hwf [] (at_append p _)

/-- values on which the pinned code is the identity: everything except the two float zeros and
non-canonical NaNs -/
def Stable : Value → Prop
  | .float f => (isNan f = true → f = F64_NAN) ∧ fEqZero f = false
  | _ => True

instance : DecidablePred Stable := fun v => by
  cases v <;> simp only [Stable] <;> infer_instance

theorem norm_stable (v : Value) (h : Stable v) : norm .cur v = v := by
  cases v with
  | float f =>
    simp only [Stable] at h
    by_cases hn : isNan f = true
    · have := h.1 hn; subst this; decide
    · simp [norm, hn, h.2]
  | _ => simp [norm]

/-- ROUND TRIP (partial, pinned code): rows without float zeros and without non-canonical NaNs
come back unchanged, same types, same bits. -/
theorem roundtrip_partial (row : List Value) (hwf : RowWF row) (hst : ∀ v ∈ row, Stable v)
    (p rest : List Nat) :
    deserializeRow (p ++ (serializeRow .cur row ++ rest)) p.length
      = .ok row (p.length + rowSize .cur row) := by
  rw [roundtrip_norm .cur row hwf p rest,
    List.map_congr_left (g := id) fun v hv => norm_stable v (hst v hv), List.map_id]

/-- the full statement is FALSE of the pinned code: `Float(+0.0)` and `Float(-0.0)` both
deserialise to `Int(0)` (type changed, sign lost). -/
theorem float_zero_counterexample :
    deserializeRow (serializeRow .cur [.float 0]) 0 = .ok [.int 0] 3 ∧
    deserializeRow (serializeRow .cur [.float F64_NEG_ZERO]) 0 = .ok [.int 0] 3 ∧
    RowWF [.float 0] ∧ RowWF [.float F64_NEG_ZERO] := by
  refine ⟨by decide, by decide, ?_, ?_⟩ <;> simp [RowWF, Value.WF, F64_NEG_ZERO]

/-- NaNs: any NaN comes back as the canonical quiet NaN (still a Float NaN; sign and payload are
not preserved) -/
theorem nan_class (var : Variant) (f : Nat) (hf : f < 256 ^ 8) (hn : isNan f = true) :
    deserializeRow (serializeRow var [.float f]) 0 = .ok [.float F64_NAN] 3 ∧ isNan F64_NAN = true := by
  have h := roundtrip_norm var [.float f] (by simp [RowWF, Value.WF, hf]) [] []
  simp only [List.nil_append, List.append_nil, List.length_nil] at h
  rw [h]
  refine ⟨?_, by decide⟩
  cases var <;> simp [norm, hn, rowSize, valuesSize, valueSize, floatSize]

/-- values on which the fixed code (fix_rowserde.patch) is the identity: everything except
non-canonical NaNs -/
def StableFix : Value → Prop
  | .float f => isNan f = true → f = F64_NAN
  | _ => True

theorem norm_stableFix (v : Value) (h : StableFix v) : norm .fix v = v := by
  cases v with
  | float f =>
    simp only [StableFix] at h
    by_cases hn : isNan f = true
    · have := h hn; subst this; decide
    · simp [norm, hn]
  | _ => simp [norm]

/-- ROUND TRIP for the fixed serialiser: every well-formed row without non-canonical NaNs comes
back unchanged — float zeros included. -/
theorem roundtrip_fixed (row : List Value) (hwf : RowWF row) (hst : ∀ v ∈ row, StableFix v)
    (p rest : List Nat) :
    deserializeRow (p ++ (serializeRow .fix row ++ rest)) p.length
      = .ok row (p.length + rowSize .fix row) := by
  rw [roundtrip_norm .fix row hwf p rest,
    List.map_congr_left (g := id) fun v hv => norm_stableFix v (hst v hv), List.map_id]

/-- the spill encoding loses nothing: two well-formed rows (no non-canonical NaNs) that the fixed
serialiser maps to the same bytes are the same row, types and bits included -/
theorem serialize_injective_fixed (r1 r2 : List Value) (h1 : RowWF r1) (h2 : RowWF r2)
    (s1 : ∀ v ∈ r1, StableFix v) (s2 : ∀ v ∈ r2, StableFix v)
    (h : serializeRow .fix r1 = serializeRow .fix r2) : r1 = r2 := by
  have e1 := roundtrip_fixed r1 h1 s1 [] []
  have e2 := roundtrip_fixed r2 h2 s2 [] []
  rw [h, e2] at e1
  injection e1 with e _
  exact e.symm

/-- the column count is written as `row.len() as u16`: a row of 65536 columns is read back as the
empty row (2 bytes consumed, 65536 left unread). -/
theorem colcount_wrap_counterexample (var : Variant) :
    deserializeRow (serializeRow var (List.replicate 65536 .null)) 0 = .ok [] 2 ∧
    (serializeRow var (List.replicate 65536 .null)).length = 65538 := by
  generalize hrow : List.replicate 65536 Value.null = row
  have hlen : row.length = 65536 := by rw [← hrow, List.length_replicate]
  constructor
  · have h : At (serializeRow var row) 0 ([0, 0] ++ serializeValues var row) := by
      rw [serializeRow, hlen]; exact at_append [] _
    rw [row_step h rfl]; rfl
  · have hs : ∀ n, valuesSize var (List.replicate n .null) = n := by
      intro n; induction n with
      | zero => rfl
      | succ n ih => rw [List.replicate_succ, valuesSize, ih, valueSize, Nat.add_comm]
    rw [size_eq var row (fun v hv => by rw [← hrow] at hv; rw [List.eq_of_mem_replicate hv]; trivial),
      rowSize, ← hrow, hs]

theorem value_total (data : List Nat) (off : Nat) :
    Good data (off + 1) (deserializeValue data off) :=
  good_guard fun _ => good_rd (by omega) fun _ => body_total data _ (off + 1) (by omega)

theorem values_total (data : List Nat) (n off : Nat) (acc : List Value) (h : off ≤ data.length) :
    Good data off (deserializeValues data n off acc) := by
  -- cases, here and in `rows_total`: 1 no read left; the next read 2 succeeds, 3 fails, 4 is `oob`
  fun_induction deserializeValues data n off acc with
  | case1 off acc => exact good_ok (Nat.le_refl _) h
  | case2 n off acc v off' heq ih =>
    have := (value_total data off).2 v off' heq
    exact good_mono (ih this.2) (by omega)
  | case3 n off acc e heq => exact good_err _
  | case4 n off acc heq => exact absurd heq (value_total data off).1

theorem row_total (data : List Nat) (off : Nat) : Good data (off + 2) (deserializeRow data off) :=
  good_guard fun _ => good_rd (by omega) fun _ => values_total data _ (off + 2) [] (by omega)

theorem rows_total (data : List Nat) (n off : Nat) (acc : List (List Value)) (h : off ≤ data.length) :
    Good data off (deserializeRows data n off acc) := by
  fun_induction deserializeRows data n off acc with
  | case1 off acc => exact good_ok (Nat.le_refl _) h
  | case2 n off acc r off' heq ih =>
    have := (row_total data off).2 r off' heq
    exact good_mono (ih this.2) (by omega)
  | case3 n off acc e heq => exact good_err _
  | case4 n off acc heq => exact absurd heq (row_total data off).1

/-- TOTALITY / no read outside the buffer (full statement): for ANY byte list and ANY starting
offset, `deserialize_row_into` yields a row or an error, never the `oob` outcome (every slice the
code takes lies inside the buffer), and on success the new offset is past the 2-byte column count
and not beyond the end of the buffer.  The same for n sequential reads. -/
theorem deserialize_total (data : List Nat) (off : Nat) :
    deserializeRow data off ≠ .oob ∧
    (∀ r o, deserializeRow data off = .ok r o → off + 2 ≤ o ∧ o ≤ data.length) ∧
    (∀ n, off ≤ data.length → deserializeRows data n off [] ≠ .oob ∧
      ∀ rs o, deserializeRows data n off [] = .ok rs o → off ≤ o ∧ o ≤ data.length) :=
  ⟨(row_total data off).1, (row_total data off).2,
    fun n h => ⟨(rows_total data n off [] h).1, (rows_total data n off [] h).2⟩⟩

/-- non-vacuity of the hypotheses of `roundtrip_partial`: a well-formed row over 15 of the 25
discriminants, and `Stable` on four of its values -/
example : RowWF [.null, .int 5, .int (256 ^ 8 - 1), .int 0, .float 0x3ff0000000000000,
    .float 0xbff0000000000000, .float F64_INF, .float F64_NEG_INF, .float F64_NAN, .text [104, 105],
    .blob [255], .vector [1, 2], .enum 1 2, .decimal 7 2, .toast []] ∧
    ∀ v ∈ [Value.null, .int 5, .float 0x3ff0000000000000, .float F64_NAN], Stable v := by
  refine ⟨⟨by decide, ?_⟩, by decide⟩
  simp only [List.mem_cons, List.not_mem_nil, or_false, forall_eq_or_imp, forall_eq, Value.WF]
  decide

end TurVerif.C33
