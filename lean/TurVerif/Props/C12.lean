import TurVerif.Model.AutoInc
/-!
C12  AUTO_INCREMENT values are unique and increasing.

Theorems about the M-code model `TurVerif.AutoInc` (transcription of the counter handling in
`execute_insert_internal`, tied to the real engine by the differential engine `sql_autoinc`).

The full property ("every generated id is distinct from every value the column has ever held and
greater than every earlier generated id, for all histories") is FALSE of the faithful model — see
`explicit_then_generated_counterexample`, `explicit_then_generated_duplicate_counterexample` and
`failed_stmt_reuse_counterexample`.  What holds, and is proved here for histories of any length:
if no INSERT mixes explicit and generated ids and no INSERT fails, the property holds
(`fresh_increasing_partial`, `generated_fresh_partial`), across DELETE, BEGIN/COMMIT/ROLLBACK,
reopen and TRUNCATE (`rollback_keeps_counter`, `reopen_keeps_counter`, `delete_keeps_counter`).
-/
namespace TurVerif.C12
open TurVerif.AutoInc

def pureNull (cells : List Cell) : Bool := cells.all (fun c => c.id.isNone)
def pureExplicit (cells : List Cell) : Bool := cells.all (fun c => c.id.isSome)

/-- statements inside the proved domain: an INSERT is all-generated or all-explicit -/
def benign : Op → Bool
  | .insert cells => pureNull cells || pureExplicit cells
  | _ => true

/-- invariant of the reachable states: the header counter dominates every value the column has
ever held; generated values were held, and are strictly increasing in time (`gens` is most recent
first) -/
structure Inv (s : St) : Prop where
  held_le : ∀ v ∈ s.held, v ≤ (s.header : Int)
  gens_held : ∀ g ∈ s.gens, g ∈ s.held
  sorted : List.Pairwise (· > ·) s.gens

/-! ### the row loop of one statement
`h0`, `held0`, `gen0`: the header counter, the values ever held and the ids generated by this
statement when the loop starts (`LoopInv` for all-generated rows, `LoopInvE` for all-explicit rows). -/
structure LoopInv (h0 : Nat) (held0 : List Int) (l : Loop) : Prop where
  maxcur : l.max = l.cur
  base : h0 ≤ l.cur
  held : ∀ v ∈ l.held, v ≤ (l.cur : Int)
  gen_le : ∀ g ∈ l.gen, g ≤ (l.cur : Int)
  gen_gt : ∀ g ∈ l.gen, (h0 : Int) < g
  gen_held : ∀ g ∈ l.gen, g ∈ l.held
  held_mono : ∀ v ∈ held0, v ∈ l.held
  sorted : List.Pairwise (· > ·) l.gen

theorem loop_null_inv (uniq : Bool) (h0 : Nat) (held0 : List Int) :
    ∀ (cells : List Cell) (l : Loop), pureNull cells = true → LoopInv h0 held0 l →
      (loop uniq cells l).failed = false → LoopInv h0 held0 (loop uniq cells l) := by
  intro cells l
  fun_induction loop uniq cells l with
  | case1 => exact fun _ hl _ => hl
  | case4 c rest l hc cur mx v _ _ ih =>
    intro hp hl hf
    simp only [pureNull, List.all_cons, Bool.and_eq_true] at hp
    exact ih hp.2
      { maxcur := by simp [mx, natMax, hl.maxcur, cur]
        base := Nat.le_succ_of_le hl.base
        held := List.forall_mem_cons.mpr ⟨Int.le_refl _, fun v hv =>
          Int.le_trans (hl.held v hv) (Int.ofNat_le.mpr (Nat.le_succ _))⟩
        gen_le := List.forall_mem_cons.mpr ⟨Int.le_refl _, fun v hv =>
          Int.le_trans (hl.gen_le v hv) (Int.ofNat_le.mpr (Nat.le_succ _))⟩
        gen_gt := List.forall_mem_cons.mpr ⟨Int.ofNat_lt.mpr (Nat.lt_succ_of_le hl.base), hl.gen_gt⟩
        gen_held := List.forall_mem_cons.mpr ⟨List.mem_cons_self .., fun g hg =>
          List.mem_cons_of_mem _ (hl.gen_held g hg)⟩
        held_mono := fun v hv => List.mem_cons_of_mem _ (hl.held_mono v hv)
        sorted := List.pairwise_cons.mpr ⟨fun g hg => Int.lt_of_le_of_lt (hl.gen_le g hg)
          (Int.ofNat_lt.mpr (Nat.lt_succ_self _)), hl.sorted⟩ } hf
  | case8 => intro hp; simp_all [pureNull]
  -- every other branch ends the loop with `failed := true`
  | _ => intro _ _ hf; cases hf

structure LoopInvE (held0 : List Int) (gen0 : List Int) (l : Loop) : Prop where
  held : ∀ v ∈ l.held, v ≤ (l.max : Int)
  gen : l.gen = gen0
  held_mono : ∀ v ∈ held0, v ∈ l.held

theorem loop_explicit_inv (uniq : Bool) (held0 gen0 : List Int) :
    ∀ (cells : List Cell) (l : Loop), pureExplicit cells = true → LoopInvE held0 gen0 l →
      (loop uniq cells l).failed = false → LoopInvE held0 gen0 (loop uniq cells l) := by
  intro cells l
  fun_induction loop uniq cells l with
  | case1 => exact fun _ hl _ => hl
  | case4 => intro hp; simp_all [pureExplicit]
  | case8 c rest l p hc h0 mx _ _ ih =>
    intro hp hl hf
    simp only [pureExplicit, List.all_cons, Bool.and_eq_true] at hp
    have hm : l.max ≤ mx ∧ p.toNat ≤ mx := by
      simp only [mx, natMax]
      split
      · exact ⟨Nat.le_of_lt ‹_›, Nat.le_refl _⟩
      · exact ⟨Nat.le_refl _, Nat.le_of_not_lt ‹_›⟩
    exact ih hp.2
      { held := List.forall_mem_cons.mpr ⟨Int.le_trans (Int.self_le_toNat p) (Int.ofNat_le.mpr hm.2),
          fun v hv => Int.le_trans (hl.held v hv) (Int.ofNat_le.mpr hm.1)⟩
        gen := hl.gen
        held_mono := fun v hv => List.mem_cons_of_mem _ (hl.held_mono v hv) } hf
  | _ => intro _ _ hf; cases hf

/-! ### one statement -/
def loop0 (s : St) : Loop :=
  { cur := s.header, max := s.header, live := s.live, held := s.held, nextRow := s.nextRow, keys := s.keys }

/-- what a successful INSERT leaves behind, in terms of the final state `l` of its row loop -/
theorem step_insert_ok (s : St) (cells : List Cell) (l : Loop) (hl : l = loop s.uniq cells (loop0 s))
    (hok : (step s (.insert cells)).2.ok = true) :
    l.failed = false ∧ (step s (.insert cells)).2.generated = l.gen.reverse ∧
    (step s (.insert cells)).1.held = l.held ∧ (step s (.insert cells)).1.gens = l.gen ++ s.gens ∧
    (step s (.insert cells)).1.header = (if l.max > 0 ∧ l.max > s.header then l.max else s.header) := by
  subst hl
  simp only [step, loop0] at hok ⊢
  split at hok
  · simp at hok
  · rename_i hf
    simp [hf]

/-- all-generated INSERT that succeeds: every generated id is new for the column, above every
earlier generated id, and the ids of the statement are strictly increasing; the invariant is kept -/
theorem insert_null_fresh (s : St) (cells : List Cell) (hinv : Inv s)
    (hp : pureNull cells = true) (hok : (step s (.insert cells)).2.ok = true) :
    Inv (step s (.insert cells)).1 ∧
    (∀ g ∈ (step s (.insert cells)).2.generated, g ∉ s.held ∧ ∀ g' ∈ s.gens, g' < g) ∧
    List.Pairwise (· < ·) (step s (.insert cells)).2.generated := by
  obtain ⟨hf, hgen, hheld, hgens, hhdr⟩ := step_insert_ok s cells _ rfl hok
  have l0 : LoopInv s.header s.held (loop0 s) :=
    { maxcur := rfl, base := Nat.le_refl _, held := hinv.held_le,
      gen_le := nofun, gen_gt := nofun, gen_held := nofun, held_mono := fun _ h => h, sorted := .nil }
  have hl := loop_null_inv s.uniq s.header s.held cells (loop0 s) hp l0 hf
  have hh : (step s (.insert cells)).1.header = (loop s.uniq cells (loop0 s)).cur := by
    rw [hhdr, hl.maxcur]
    have := hl.base
    split <;> omega
  refine ⟨⟨?_, ?_, ?_⟩, ?_, ?_⟩
  · rw [hheld, hh]; exact hl.held
  · rw [hgens, hheld]
    intro g hg
    exact (List.mem_append.mp hg).elim (hl.gen_held g) fun h => hl.held_mono g (hinv.gens_held g h)
  · rw [hgens, List.pairwise_append]
    refine ⟨hl.sorted, hinv.sorted, fun a ha b hb => ?_⟩
    have h1 := hl.gen_gt a ha
    have h2 := hinv.held_le b (hinv.gens_held b hb)
    show a > b
    omega
  · intro g hg
    have h1 := hl.gen_gt g (List.mem_reverse.mp (hgen ▸ hg))
    exact ⟨fun hmem => by have := hinv.held_le g hmem; omega,
      fun g' hg' => by have := hinv.held_le g' (hinv.gens_held g' hg'); omega⟩
  · rw [hgen, List.pairwise_reverse]
    exact hl.sorted

/-- all-explicit INSERT that succeeds: nothing is generated; the invariant is kept (the header is
raised to the largest explicit id) -/
theorem insert_explicit_inv (s : St) (cells : List Cell) (hinv : Inv s)
    (hp : pureExplicit cells = true) (hok : (step s (.insert cells)).2.ok = true) :
    Inv (step s (.insert cells)).1 ∧ (step s (.insert cells)).2.generated = [] := by
  obtain ⟨hf, hgen, hheld, hgens, hhdr⟩ := step_insert_ok s cells _ rfl hok
  have l0 : LoopInvE s.held [] (loop0 s) :=
    { held := hinv.held_le, gen := rfl, held_mono := fun _ h => h }
  have hl := loop_explicit_inv s.uniq s.held [] cells (loop0 s) hp l0 hf
  refine ⟨⟨?_, ?_, ?_⟩, ?_⟩
  · intro v hv; rw [hheld] at hv; rw [hhdr]
    have := hl.held v hv
    split <;> omega
  · intro g hg
    rw [hgens, hl.gen] at hg; rw [hheld]
    exact hl.held_mono g (hinv.gens_held g (by simpa using hg))
  · rw [hgens, hl.gen]; simpa using hinv.sorted
  · rw [hgen, hl.gen]; rfl

/-! ### DELETE, transactions, reopen, TRUNCATE never lower the counter -/

/-- every statement other than INSERT generates nothing and, TRUNCATE … RESTART IDENTITY apart,
leaves the counter and the ghost history alone -/
theorem keeps_counter (s : St) (o : Op) (h : ∀ c, o ≠ .insert c) :
    (step s o).2.generated = [] ∧ (o = .truncate true ∨
      ((step s o).1.header = s.header ∧ (step s o).1.held = s.held ∧ (step s o).1.gens = s.gens)) := by
  fun_cases step s o
  case case1 | case2 => exact absurd rfl (h _)      -- INSERT
  case case11 => exact ⟨rfl, .inl rfl⟩              -- TRUNCATE … RESTART IDENTITY
  all_goals exact ⟨rfl, .inr ⟨rfl, rfl, rfl⟩⟩

theorem delete_keeps_counter (s : St) (v : Int) :
    (step s (.delete v)).1.header = s.header ∧ (step s (.delete v)).1.held = s.held ∧
    (step s (.delete v)).1.gens = s.gens := ⟨rfl, rfl, rfl⟩

theorem rollback_keeps_counter (s : St) :
    (step s .rollback).1.header = s.header ∧ (step s .rollback).1.held = s.held ∧
    (step s .rollback).1.gens = s.gens := (keeps_counter s .rollback fun _ => nofun).2.resolve_left nofun

theorem reopen_keeps_counter (s : St) :
    (step s .reopen).1.header = s.header ∧ (step s .reopen).1.held = s.held ∧
    (step s .reopen).1.gens = s.gens ∧ (step s .reopen).1.live = s.live := ⟨rfl, rfl, rfl, rfl⟩

theorem truncate_keeps_counter (s : St) :
    (step s (.truncate false)).1.header = s.header ∧ (step s (.truncate false)).1.held = s.held :=
  ⟨rfl, rfl⟩

theorem other_ops_inv (s : St) (o : Op) (hinv : Inv s) (h : ∀ c, o ≠ .insert c) :
    Inv (step s o).1 := by
  obtain ⟨_, rfl | ⟨h1, h2, h3⟩⟩ := keeps_counter s o h
  · exact ⟨nofun, nofun, .nil⟩
  · exact ⟨by rw [h1, h2]; exact hinv.held_le, by rw [h2, h3]; exact hinv.gens_held,
      by rw [h3]; exact hinv.sorted⟩

/-- one benign, successful statement keeps the invariant -/
theorem step_inv (s : St) (o : Op) (hinv : Inv s) (hb : benign o = true)
    (hok : (step s o).2.ok = true) : Inv (step s o).1 := by
  cases o with
  | insert cells =>
    simp [benign] at hb
    rcases hb with hp | hp
    · exact (insert_null_fresh s cells hinv hp hok).1
    · exact (insert_explicit_inv s cells hinv hp hok).1
  | _ => exact other_ops_inv s _ hinv (by intro c hc; cases hc)

def allOk : List Resp → Bool
  | [] => true
  | r :: rs => r.ok && allOk rs

/-- **partial form of C12**, for histories of any length: if no INSERT mixes explicit and generated
ids and no statement fails, the invariant "header ≥ everything ever held; generated ids strictly
increasing in time" holds in every reachable state — across DELETE (also of the maximum id),
ROLLBACK, reopen and TRUNCATE. -/
theorem fresh_increasing_partial (ops : List Op) :
    ∀ (s : St), Inv s → ops.all benign = true → allOk (run s ops).2 = true → Inv (run s ops).1 := by
  induction ops with
  | nil => intro s h _ _; simpa [run] using h
  | cons o rest ih =>
    intro s hinv hb hok
    simp only [List.all_cons, Bool.and_eq_true] at hb
    simp only [run, allOk, Bool.and_eq_true] at hok ⊢
    exact ih _ (step_inv s o hinv hb.1 hok.1) hb.2 hok.2

/-- in such a state every id generated by the next all-generated INSERT is distinct from every
value the column has ever held, greater than every earlier generated id, and the ids of one
statement are strictly increasing -/
theorem generated_fresh_partial (s : St) (cells : List Cell) (hinv : Inv s)
    (hp : pureNull cells = true) (hok : (step s (.insert cells)).2.ok = true) :
    (∀ g ∈ (step s (.insert cells)).2.generated, g ∉ s.held ∧ ∀ g' ∈ s.gens, g' < g) ∧
    List.Pairwise (· < ·) (step s (.insert cells)).2.generated :=
  (insert_null_fresh s cells hinv hp hok).2

/-- the empty table satisfies the invariant (non-vacuity of the hypotheses) -/
theorem inv_init (u : Bool) : Inv { uniq := u } :=
  ⟨by intro v hv; simp at hv, by intro g hg; simp at hg, by simp⟩

example : (run {} [.insert [⟨none, false⟩, ⟨none, false⟩], .delete 2, .begin, .insert [⟨none, false⟩],
    .rollback, .reopen, .truncate false, .insert [⟨some 9, false⟩]]).2.map (·.generated)
    = [[1, 2], [], [], [3], [], [], [], []] := by decide

/-! ### the full property is false of the faithful model -/
def s1 : St := { header := 1, live := [1], held := [1], gens := [1], nextRow := 2, keys := [1] }
def mixed : List Cell := [⟨none, false⟩, ⟨some 4, false⟩, ⟨none, false⟩, ⟨none, false⟩]

/-- DESIGN §10 item 24: from counter 1, `VALUES (NULL),(4),(NULL),(NULL)` generates 2, 3 and then 4
again: with a PRIMARY KEY the statement fails at the last row, the first three rows stay and the
header keeps the value 1 -/
theorem explicit_then_generated_counterexample :
    Inv s1 ∧ (step s1 (.insert mixed)).2 = { ok := false, generated := [2, 3] } ∧
    (step s1 (.insert mixed)).1.live = [3, 4, 2, 1] ∧ (step s1 (.insert mixed)).1.header = 1 := by
  refine ⟨⟨?_, ?_, ?_⟩, ?_, ?_, ?_⟩ <;> decide

/-- the same statement without a unique index succeeds and stores the id 4 twice: a generated id
equal to a value the column already holds -/
theorem explicit_then_generated_duplicate_counterexample :
    (step { s1 with uniq := false } (.insert mixed)).2 = { ok := true, generated := [2, 3, 4] } ∧
    (step { s1 with uniq := false } (.insert mixed)).1.live = [4, 3, 4, 2, 1] := by
  constructor <;> decide

/-- a statement failing at its second row keeps the first row (id 2) but not the header update:
the next INSERT generates 2 again (PRIMARY KEY violation; every later INSERT fails the same way) -/
theorem failed_stmt_reuse_counterexample :
    (run s1 [.insert [⟨none, false⟩, ⟨none, true⟩], .insert [⟨none, false⟩]]).2
      = [{ ok := false, generated := [2] }, { ok := false, generated := [] }] ∧
    (run { s1 with uniq := false } [.insert [⟨none, false⟩, ⟨none, true⟩], .insert [⟨none, false⟩]]).2
      = [{ ok := false, generated := [2] }, { ok := true, generated := [2] }] := by
  constructor <;> decide

/-- after a reopen the row-key counter restarts: the next INSERT collides with an existing row key
and fails although the id it generated (header + 1) is fresh -/
theorem reopen_rowkey_collision_counterexample :
    (run s1 [.reopen, .insert [⟨none, false⟩], .insert [⟨none, false⟩]]).2
      = [{ ok := true, generated := [] }, { ok := false, generated := [] }, { ok := true, generated := [2] }] := by
  decide

end TurVerif.C12
