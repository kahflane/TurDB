import TurVerif.Model.Commit
import TurVerif.Lemmas.Commit
import TurVerif.Props.C01
/-!
C02  Crash recovery yields a prefix-consistent database (page-level protocol model `TurVerif.Commit`).

* `recovery_paths_equal`: `recover_all_tables` (automatic, at open) and `streaming_recovery`
  (degraded open + `PRAGMA recover_wal`, any batch size) compute the same pages from the same disk:
  both are folds of the same frame list.  Hypothesis: the WAL holds no before-image ("undo") frames —
  true of every WAL the pinned engine can write, because the writer of such frames
  (`write_wal_undo_frame_if_needed`) is dead code.
* `power_prefix_consistent`: for protocol traces, a power loss recovers to the state after a prefix of
  the statements — all acknowledged ones plus at most the in-flight one, completely or not at all.
* `recovery_idempotent`: a crash during recovery followed by another recovery is harmless.
* `kill_atomicity_counterexample`: the same protocol is **not** atomic under a process kill: pages are
  written in place before anything is logged and there are no before-images, so a page first touched
  by the in-flight statement keeps its uncommitted image while an already-logged page is redone to
  its committed image (reproduced on the real code: `crash:kill:*:page_mut:(partial-stmt|phantom-rows)`).
* `index_disagrees_counterexample`: index pages bypass the log, so after a kill in mid-statement the
  table page is reverted by redo and the index page is not (reproduced:
  `crash:kill:dml-pk:page_mut:index-disagrees`).
-/
namespace TurVerif.C02
open TurVerif.Commit

/-- the pages the streaming path computes: a redo of the frames it does not skip (the batch counter
only decides when to msync) -/
theorem recoverStreaming_fst (known : Nat → Bool) (batch : Nat) (pg : Pages) (w : List Frame) :
    (recoverStreaming known batch pg w).1 = redo pg (w.filter (fun fr => !fr.undo && known fr.file)) := by
  unfold recoverStreaming
  -- the counter takes any value along the fold: generalise the start pair
  change (w.foldl _ (pg, 0)).1 = redo (pg, 0).1 _
  generalize (pg, 0) = acc
  induction w generalizing acc with
  | nil => rfl
  | cons fr w ih =>
    cases h : (!fr.undo && known fr.file) <;>
      simp only [List.foldl_cons, List.filter_cons, h, Bool.false_eq_true, if_false, if_true, ih, redo_cons]

/-- both recovery procedures are folds of the same frame list -/
theorem recovery_paths_equal (known : Nat → Bool) (batch : Nat) (pg : Pages) (w : List Frame)
    (hnoUndo : ∀ fr ∈ w, fr.undo = false) :
    recoverAll known pg w = (recoverStreaming known batch pg w).1 := by
  rw [recoverStreaming_fst]
  unfold recoverAll
  have : w.filter (fun fr => fr.undo && known fr.file &&
      !w.any (fun fr' => !fr'.undo && fr'.file == fr.file && fr'.page == fr.page)) = [] := by
    rw [List.filter_eq_nil_iff]
    intro fr hfr
    simp [hnoUndo fr hfr]
  simp only [this, List.reverse_nil]
  rfl

theorem streaming_batch_irrelevant (known : Nat → Bool) (b1 b2 : Nat) (pg : Pages) (w : List Frame) :
    (recoverStreaming known b1 pg w).1 = (recoverStreaming known b2 pg w).1 := by
  rw [recoverStreaming_fst, recoverStreaming_fst]

/-- recovering an already recovered disk (crash during recovery, WAL not yet truncated) is a no-op -/
theorem recovery_idempotent (d : Disk) : recover { pages := recover d, wal := d.wal } = recover d :=
  C01.redo_idempotent d.pages d.wal

/-- recovery is restartable: a second crash after recovery has redone only the first `j` frames
(for ANY `j`; the WAL is truncated only after the whole replay), followed by a full recovery,
gives the same pages as one uninterrupted recovery -/
theorem recovery_restartable (d : Disk) (j : Nat) :
    recover { pages := redo d.pages (d.wal.take j), wal := d.wal } = recover d := by
  have : redo (redo d.pages (d.wal.take j)) (d.wal.take j ++ d.wal.drop j)
      = redo d.pages (d.wal.take j ++ d.wal.drop j) := by
    rw [redo_append, C01.redo_idempotent, ← redo_append]
  rwa [List.take_append_drop] at this

/-- prefix consistency under power loss, for every protocol trace and crash index: the recovered
pages are those after a prefix of the statements — the acknowledged ones, or those plus the whole
in-flight statement; never a part of a statement. -/
theorem power_prefix_consistent (stmts : List Stmt) (k : Nat) :
    ∃ n, (n = acked (protocolTrace stmts) k ∨ n = acked (protocolTrace stmts) k + 1) ∧
      recover (crashPower (protocolTrace stmts) k) = pagesAfter (stmts.take n) := by
  rcases C01.durable_power stmts k with h | h
  · exact ⟨_, Or.inl rfl, h⟩
  · exact ⟨_, Or.inr rfl, h⟩

/-- under a process kill the protocol is not atomic: statement 2 rewrites page (1,1) and first
touches page (1,2); killed after its in-place writes, recovery puts (1,1) back to the committed image
7 but keeps the uncommitted image 9 of (1,2): neither the state after statement 1 nor after
statement 2. -/
theorem kill_atomicity_counterexample :
    let stmts : List Stmt := [[⟨1, 1, 7⟩], [⟨1, 1, 8⟩, ⟨1, 2, 9⟩]]
    let r := recover (crashKill (protocolTrace stmts) 6)
    acked (protocolTrace stmts) 6 = 1 ∧
    (r 1 1 = 7 ∧ r 1 2 = 9) ∧
    (pagesAfter (stmts.take 1) 1 2 = 0) ∧ (pagesAfter (stmts.take 2) 1 1 = 8) := by decide

/-- index pages are not logged (trace of a DELETE on a table, file 1, with an index, file 2, after an
acknowledged INSERT): killed after the in-place writes, redo reverts the table page to the committed
image while the index page keeps the uncommitted one — lookups through the index disagree with
the scan. -/
theorem index_disagrees_counterexample :
    let es := [Event.mut 1 1 10, Event.mut 2 1 20, Event.walWrite 1 1 10, Event.walSync, Event.ack,
               Event.mut 2 1 21, Event.mut 1 1 11]
    let r := recover (crashKill es 7)
    r 1 1 = 10 ∧ r 2 1 = 21 := by decide

end TurVerif.C02
