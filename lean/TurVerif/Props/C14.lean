import TurVerif.Model.Sql
import TurVerif.Model.Like
import TurVerif.Lemmas.Like
import TurVerif.Lemmas.LikeAscii
import TurVerif.Lemmas.ListAux
import TurVerif.Lemmas.SqlBasic
/-!
C14  WHERE filtering follows SQL three-valued logic.

Theorems about the reference semantics `TurVerif.Sql` (M-spec: this *is* the definition the
property statement refers to) and about the M-code model of the engine's LIKE matcher.
The executor itself is not modelled; it is tied to this semantics by the differential engine
`sql_where` (see props/C14.json).
-/
namespace TurVerif.C14
open TurVerif.Sql

theorem and_table :
    Tri.and .t .t = .t ∧ Tri.and .t .f = .f ∧ Tri.and .t .u = .u ∧
    Tri.and .f .t = .f ∧ Tri.and .f .f = .f ∧ Tri.and .f .u = .f ∧
    Tri.and .u .t = .u ∧ Tri.and .u .f = .f ∧ Tri.and .u .u = .u := by decide

theorem or_table :
    Tri.or .t .t = .t ∧ Tri.or .t .f = .t ∧ Tri.or .t .u = .t ∧
    Tri.or .f .t = .t ∧ Tri.or .f .f = .f ∧ Tri.or .f .u = .u ∧
    Tri.or .u .t = .t ∧ Tri.or .u .f = .u ∧ Tri.or .u .u = .u := by decide

theorem not_table : Tri.not .t = .f ∧ Tri.not .f = .t ∧ Tri.not .u = .u := by decide

theorem and_comm (a b : Tri) : a.and b = b.and a := by cases a <;> cases b <;> rfl
theorem or_comm (a b : Tri) : a.or b = b.or a := by cases a <;> cases b <;> rfl
theorem and_assoc (a b c : Tri) : (a.and b).and c = a.and (b.and c) := by
  cases a <;> cases b <;> cases c <;> rfl
theorem or_assoc (a b c : Tri) : (a.or b).or c = a.or (b.or c) := by
  cases a <;> cases b <;> cases c <;> rfl
theorem de_morgan_and (a b : Tri) : (a.and b).not = a.not.or b.not := by
  cases a <;> cases b <;> rfl
theorem de_morgan_or (a b : Tri) : (a.or b).not = a.not.and b.not := by
  cases a <;> cases b <;> rfl
theorem not_not (a : Tri) : a.not.not = a := by cases a <;> rfl
theorem and_true (a : Tri) : a.and .t = a := by cases a <;> rfl
theorem or_false (a : Tri) : a.or .f = a := by cases a <;> rfl
theorem or_eq_t (a b : Tri) : a.or b = .t ↔ a = .t ∨ b = .t := by
  cases a <;> cases b <;> simp [Tri.or]
theorem or_eq_f (a b : Tri) : a.or b = .f ↔ a = .f ∧ b = .f := by
  cases a <;> cases b <;> simp [Tri.or]
theorem not_eq_t (a : Tri) : a.not = .t ↔ a = .f := by cases a <;> simp [Tri.not]

theorem cmp_null_left (op : BinOp) (v : Val) : cmpVals op .null v = .ok .null := rfl

theorem cmp_null_right (op : BinOp) (v : Val) : cmpVals op v .null = .ok .null := by
  cases v <;> rfl

/-- a comparison of two non-NULL comparable values is TRUE or FALSE, never UNKNOWN -/
theorem cmp_nonnull_two_valued (op : BinOp) (a b : Val) (o : Ordering)
    (h : Val.cmp a b = .ok (some o)) : cmpVals op a b = .ok (.bool (cmpHolds op o)) := by
  unfold cmpVals
  rw [h]

theorem isNull_two_valued (r : Row) (e : Expr) (n : Bool) (v : Val) (h : eval r e = .ok v) :
    eval r (.isNull e n) = .ok (.bool (v.isNull != n)) := by
  simp only [eval, h]

/-- `x IN (v :: vs)` is `x = v OR x IN vs` in 3VL -/
theorem in_cons (x v : Val) (vs : List Val) (c : Val) (a b : Tri)
    (h1 : cmpVals .eq x v = .ok c) (h2 : c.truth = .ok a) (h3 : inFold x vs = .ok b) :
    inFold x (v :: vs) = .ok (a.or b) := by
  simp only [inFold, h1, h2, h3]

theorem in_empty (x : Val) : inFold x [] = .ok .f := rfl

/-- `in_cons` read backwards: an IN fold that evaluates does so through its first comparison
and the fold of the rest -/
theorem inFold_cons_ok {x v : Val} {vs : List Val} {tv : Tri} (h : inFold x (v :: vs) = .ok tv) :
    ∃ c a b, cmpVals .eq x v = .ok c ∧ c.truth = .ok a ∧ inFold x vs = .ok b ∧ tv = a.or b := by
  simp only [inFold] at h
  split at h
  · cases h
  · rename_i c hc
    split at h
    · rename_i a b ha hb
      cases h
      exact ⟨c, a, b, hc, ha, hb, rfl⟩
    · cases h
    · cases h

/-- with NULL on the left every comparison is UNKNOWN, and so is their disjunction -/
theorem inFold_null (vs : List Val) : inFold .null vs = .ok (if vs.isEmpty then .f else .u) := by
  induction vs with
  | nil => rfl
  | cons v rest ih =>
    rw [in_cons .null v rest .null .u _ rfl rfl ih]
    cases rest <;> rfl

theorem in_null_lhs (vs : List Val) (hne : vs ≠ []) : inFold .null vs = .ok .u := by
  rw [inFold_null, if_neg (mt List.isEmpty_iff.mp hne)]

theorem truth_t_iff {c : Val} {a : Tri} (h : c.truth = .ok a) : a = .t ↔ c = .bool true := by
  obtain rfl := Val.truth_eq_ok.mp h
  cases a <;> decide

theorem truth_f_iff {c : Val} {a : Tri} (h : c.truth = .ok a) : a = .f ↔ c = .bool false := by
  obtain rfl := Val.truth_eq_ok.mp h
  cases a <;> decide

theorem inFold_true_iff {x : Val} {vs : List Val} {tv : Tri} (h : inFold x vs = .ok tv) :
    tv = .t ↔ ∃ v ∈ vs, cmpVals .eq x v = .ok (.bool true) := by
  induction vs generalizing tv with
  | nil => cases h; simp
  | cons v rest ih =>
    obtain ⟨c, a, b, hc, ha, hb, rfl⟩ := inFold_cons_ok h
    rw [or_eq_t, truth_t_iff ha, ih hb]
    simp only [List.mem_cons, exists_eq_or_imp, hc, Except.ok.injEq]

theorem inFold_false_iff {x : Val} {vs : List Val} {tv : Tri} (h : inFold x vs = .ok tv) :
    tv = .f ↔ ∀ v ∈ vs, cmpVals .eq x v = .ok (.bool false) := by
  induction vs generalizing tv with
  | nil => cases h; simp
  | cons v rest ih =>
    obtain ⟨c, a, b, hc, ha, hb, rfl⟩ := inFold_cons_ok h
    rw [or_eq_f, truth_f_iff ha, ih hb, List.forall_mem_cons, hc, Except.ok.injEq]

/-- a NULL element in the list: the result is never FALSE (so `NOT IN` is never TRUE) -/
theorem in_list_with_null_not_false (x : Val) (vs : List Val) (tv : Tri)
    (hmem : Val.null ∈ vs) (h : inFold x vs = .ok tv) : tv ≠ .f := by
  intro hf
  -- the comparison with the NULL element is UNKNOWN, not FALSE
  have := (inFold_false_iff h).mp hf _ hmem
  rw [cmp_null_right] at this
  cases this

theorem between_def (r : Row) (e lo hi : Expr) (v l h : Val)
    (he : eval r e = .ok v) (hl : eval r lo = .ok l) (hh : eval r hi = .ok h) :
    eval r (.between e lo hi false) =
      eval r (.bin .and (.bin .ge e lo) (.bin .le e hi)) := by
  simp only [eval, he, hl, hh]
  cases cmpVals .ge v l <;> cases cmpVals .le v h <;> rfl

theorem not_between_def (r : Row) (e lo hi : Expr) (v l h : Val)
    (he : eval r e = .ok v) (hl : eval r lo = .ok l) (hh : eval r hi = .ok h) :
    eval r (.between e lo hi true) = eval r (.not (.between e lo hi false)) := by
  simp only [eval, he, hl, hh]
  cases cmpVals .ge v l with
  | error e => cases cmpVals .le v h <;> rfl
  | ok a =>
    cases cmpVals .le v h with
    | error e => rfl
    | ok b =>
      dsimp only
      cases a.truth <;> cases b.truth <;>
        simp only [Val.truth_ofTri, if_true, Bool.false_eq_true, if_false]

theorem keeps_iff (p : Expr) (r : Row) :
    keeps p r = .ok true ↔ eval r p = .ok (.bool true) := by
  rw [keeps_eq_ok]
  constructor
  · rintro ⟨tv, h, ht⟩
    cases tv with
    | t => exact h
    | _ => cases ht
  · exact fun h => ⟨.t, h, rfl⟩

theorem filter_iff_true (p : Expr) (rows out : List Row) (h : filterRows p rows = .ok out) (r : Row) :
    r ∈ out ↔ r ∈ rows ∧ keeps p r = .ok true := by
  rw [(filterRows_ok_iff.mp h).1, List.mem_filter, kept_iff]

theorem filter_sublist (p : Expr) (rows out : List Row) (h : filterRows p rows = .ok out) :
    out.Sublist rows :=
  (filterRows_ok_iff.mp h).1 ▸ List.filter_sublist

theorem eval_not {e : Expr} {r : Row} {tv : Tri} (h : eval r e = .ok (Val.ofTri tv)) :
    eval r (.not e) = .ok (Val.ofTri tv.not) := by
  simp only [eval, h, Val.truth_ofTri]

theorem tlp_row (p : Expr) (r : Row) (v : Val) (tv : Tri) (h : eval r p = .ok v) (ht : v.truth = .ok tv) :
    (keeps p r = .ok true ∧ keeps (.not p) r = .ok false ∧ keeps (.isNull p false) r = .ok false) ∨
    (keeps p r = .ok false ∧ keeps (.not p) r = .ok true ∧ keeps (.isNull p false) r = .ok false) ∨
    (keeps p r = .ok false ∧ keeps (.not p) r = .ok false ∧ keeps (.isNull p false) r = .ok true) := by
  obtain rfl := Val.truth_eq_ok.mp ht
  have h1 := keeps_of_eval h
  have h2 := keeps_of_eval (eval_not h)
  have h3 := isNull_two_valued r p false _ h
  cases tv
  · exact Or.inl ⟨h1, h2, keeps_of_eval (tv := .f) h3⟩
  · exact Or.inr (Or.inl ⟨h1, h2, keeps_of_eval (tv := .f) h3⟩)
  · exact Or.inr (Or.inr ⟨h1, h2, keeps_of_eval (tv := .t) h3⟩)

/-- ternary-logic partitioning (TLP: the filters by `p`, `NOT p`, `p IS NULL` partition the table),
counting form: the three sizes add up to the table size -/
theorem tlp_partition (p : Expr) (rows a b c : List Row)
    (ha : filterRows p rows = .ok a) (hb : filterRows (.not p) rows = .ok b)
    (hc : filterRows (.isNull p false) rows = .ok c) :
    a.length + b.length + c.length = rows.length := by
  obtain ⟨rfl, h1⟩ := filterRows_ok_iff.mp ha
  obtain ⟨rfl, h2⟩ := filterRows_ok_iff.mp hb
  obtain ⟨rfl, h3⟩ := filterRows_ok_iff.mp hc
  rw [← List.length_append, ← List.length_append]
  refine (filter3_perm _ _ _ rows fun r hr => ?_).length_eq
  -- the predicate has a truth value on `r`, otherwise the first filter would be an error
  obtain ⟨tv, hv, _⟩ := keeps_eq_ok.mp (h1 r hr)
  simpa only [h1 r hr, h2 r hr, h3 r hr, Except.ok.injEq]
    using tlp_row p r _ tv hv (Val.truth_ofTri tv)

theorem select_list_same_value (p : Expr) (r : Row) (out : Row) (h : evalList r [p] = .ok out) :
    ∃ v, out = [v] ∧ eval r p = .ok v ∧ (keeps p r = .ok true ↔ v = .bool true) := by
  simp only [evalList] at h
  cases hv : eval r p with
  | error e => simp [hv] at h
  | ok v =>
    simp [hv] at h
    refine ⟨v, h.symm, rfl, ?_⟩
    rw [keeps_iff, hv]; simp

theorem like_null (r : Row) (e p : Expr) (n : Bool) (v : Val)
    (h1 : eval r e = .ok .null) (h2 : eval r p = .ok v) : eval r (.like e p n) = .ok .null := by
  simp [eval, h1, h2]

theorem like_percent_matches_all (s : List Char) : likeSpec ['%'] s = true := by
  simp only [likeSpec, if_true, List.any_eq_true]
  exact ⟨[], (TurVerif.Like.mem_tails s []).mpr ⟨s.length, List.drop_length.symm⟩, rfl⟩

theorem like_exact (s : List Char) (h : ∀ c ∈ s, c ≠ '%' ∧ c ≠ '_') : likeSpec s s = true := by
  induction s with
  | nil => rfl
  | cons c cs ih =>
    have hc := h c (by simp)
    simp [likeSpec, hc.1, ih (fun x hx => h x (by simp [hx]))]

/-- M-code of the engine's matcher (`like_match_impl`) DISAGREES with the declarative
definition: a `%` in the pattern is compared literally first, so with a `%` in the text at
that position it is consumed as a literal.  Concrete witness, replayed on the real code by
the harness (known finding C14-like-percent-literal). -/
theorem likeImpl_percent_counterexample :
    TurVerif.Like.likeImpl [120, 37, 120, 37] [95, 37] = some false ∧
    likeSpec ['_', '%'] ['x', '%', 'x', '%'] = true := by decide

/-- Termination of the engine's matcher loop: the iteration budget `fuelFor t p` of the model is
never exhausted, for every text and every pattern (potential: `(|t|+|p|+1)·(|t| − starTi) +
(|t| − ti) + (|p| − pi) + 1` strictly decreases in every iteration, `Lemmas/Like.lean`). -/
theorem likeImpl_total (t p : List Nat) : TurVerif.Like.likeImpl t p ≠ none := by
  obtain ⟨b, hb, _⟩ := TurVerif.Like.likeImpl_spec t p
  rw [hb]
  exact Option.some_ne_none b

/-- On every text without a `%` byte (37) — and for EVERY pattern — the greedy
single-backtrack matcher computes exactly the declarative LIKE (`likeSpecB` = `likeSpec` over
bytes: `%` any sequence, `_` exactly one byte).  `_partial` because the unrestricted statement is
false (`likeImpl_percent_counterexample`, `likeImpl_text_percent_counterexample`): the
hypothesis on the text cannot be dropped. -/
theorem likeImpl_eq_spec_partial (t p : List Nat) (ht : ∀ b ∈ t, b ≠ 37) :
    TurVerif.Like.likeImpl t p = some (TurVerif.Like.likeSpecB p t) := by
  obtain ⟨b, hb, hv⟩ := TurVerif.Like.likeImpl_spec t p
  rw [hb, Bool.eq_iff_iff.mpr (hv ht)]

/-- For ASCII strings the byte-level definition on the UTF-8 bytes and the character-level
definition `likeSpec` (the one `eval` uses for `LIKE`) coincide. -/
theorem likeSpecB_eq_likeSpec_ascii (p s : String)
    (hp : ∀ c ∈ p.toList, c.toNat < 128) (hs : ∀ c ∈ s.toList, c.toNat < 128) :
    TurVerif.Like.likeSpecB (TurVerif.Like.bytesOf p) (TurVerif.Like.bytesOf s)
      = likeSpec p.toList s.toList := by
  rw [TurVerif.Like.bytesOf_ascii p hp, TurVerif.Like.bytesOf_ascii s hs,
    TurVerif.Like.likeSpecB_map_toNat]

/-- code-point form of the same fact, for all characters (`Char.toNat` is injective) -/
theorem likeSpecB_eq_likeSpec_codepoints (p s : List Char) :
    TurVerif.Like.likeSpecB (p.map Char.toNat) (s.map Char.toNat) = likeSpec p s :=
  TurVerif.Like.likeSpecB_map_toNat p s

/-- the same counterexample as `likeImpl_percent_counterexample`, against the byte-level
definition: the `%`-free-text hypothesis of `likeImpl_eq_spec_partial` is necessary -/
theorem likeImpl_text_percent_counterexample :
    TurVerif.Like.likeImpl [120, 37, 120, 37] [95, 37] = some false ∧
    TurVerif.Like.likeSpecB [95, 37] [120, 37, 120, 37] = true :=
  ⟨likeImpl_percent_counterexample.1,
    (likeSpecB_eq_likeSpec_codepoints _ _).trans likeImpl_percent_counterexample.2⟩

/-- On ASCII text without `%` and any ASCII pattern, the engine's matcher run on the
UTF-8 bytes returns SQL's LIKE as defined by the reference semantics. -/
theorem likeImpl_eq_likeSpec_ascii_partial (s p : String)
    (hs : ∀ c ∈ s.toList, c.toNat < 128) (hp : ∀ c ∈ p.toList, c.toNat < 128)
    (hpct : '%' ∉ s.toList) :
    TurVerif.Like.likeImpl (TurVerif.Like.bytesOf s) (TurVerif.Like.bytesOf p)
      = some (likeSpec p.toList s.toList) := by
  rw [← likeSpecB_eq_likeSpec_ascii p s hp hs]
  apply likeImpl_eq_spec_partial
  rw [TurVerif.Like.bytesOf_ascii s hs]
  intro b hb
  obtain ⟨c, hc, rfl⟩ := List.mem_map.mp hb
  intro h
  exact hpct ((TurVerif.Like.toNat_eq_37 c).mp h ▸ hc)

/-- non-vacuity / sanity: hypotheses satisfiable, both answers occur, backtracking exercised
('abcabd' LIKE '%ab_d%' needs the second occurrence of 'ab') -/
example :
    TurVerif.Like.likeImpl [97, 98, 99, 97, 98, 100] [37, 97, 98, 95, 100, 37] = some false ∧
    TurVerif.Like.likeImpl [97, 98, 99, 97, 98, 120, 100] [37, 97, 98, 95, 100, 37] = some true ∧
    TurVerif.Like.likeSpecB [37, 97, 98, 95, 100, 37] [97, 98, 99, 97, 98, 120, 100] = true := by
  decide

/-- non-vacuity: a concrete table on which the three TLP filters are all non-empty -/
example :
    filterRows (.bin .eq (.col 0) (.lit (.int 1))) [[.int 1], [.int 2], [.null]] = .ok [[.int 1]] ∧
    filterRows (.not (.bin .eq (.col 0) (.lit (.int 1)))) [[.int 1], [.int 2], [.null]] = .ok [[.int 2]] ∧
    filterRows (.isNull (.bin .eq (.col 0) (.lit (.int 1))) false) [[.int 1], [.int 2], [.null]]
      = .ok [[.null]] := by
  refine ⟨?_, ?_, ?_⟩ <;> rfl

end TurVerif.C14
