import TurVerif.Model.SqlIdx
import TurVerif.Lemmas.SqlDb
/-!
C21  Schema changes behave as declared and persist.

Theorems on the relational state machine `TurVerif.SqlDb` (M-spec) and its DDL catalogue
`TurVerif.SqlIdx.ddl`: what the property statement demands of each schema change, for every
state and every table.
* `add_column_reads_default`: after ADD COLUMN every existing row reads the declared default
  (NULL when none is declared) in the new column and is otherwise unchanged;
* `drop_column_preserves_others`: DROP COLUMN removes exactly that position from every row;
* `rename_keeps_values`: RENAME COLUMN changes no row, only the name at that position;
* `truncate_empties`, `drop_table_removes`;
* `create_index_no_effect`, `drop_index_no_effect`: CREATE / DROP of a non-unique index changes
  no table;
* `reopen_identity`: closing and reopening is the identity on the logical state, so each of the
  above also holds after `reopen` (`*_after_reopen`).
The DDL code of the engine (ddl.rs, catalog persistence) is not modelled; it is tied to these
statements by the differential run `sql_ddl` (props/C21.json), which finds eight independent
violations on the pinned tree (known_findings.json).
-/
namespace TurVerif.C21
open TurVerif.Sql TurVerif.SqlDb TurVerif.SqlIdx

theorem reopen_identity (s : DbState) : reopen s = s := rfl

theorem ddl_reopen (s : St) : (ddl s .reopen).1 = s := rfl

/-! ### ADD COLUMN -/
theorem add_column_reads_default (s : DbState) (tn : String) (t : TableSt) (c : ColDef)
    (hf : s.find tn = some t) :
    ((step s (.addColumn tn c)).1.find tn).map (·.rows) = some (t.rows.map (· ++ [c.dflt])) ∧
    ((step s (.addColumn tn c)).1.find tn).map (·.cols) = some (t.cols ++ [c]) := by
  have := find_put s tn t { t with cols := t.cols ++ [c], rows := t.rows.map (· ++ [c.dflt]) } hf rfl
  simp only [step, hf, this, Option.map_some, and_self]

/-- every old row keeps its values and reads the default in the new last position -/
theorem add_column_row (r : Row) (d : Val) (i : Nat) :
    (r ++ [d])[i]? = if i < r.length then r[i]? else if i = r.length then some d else none := by
  rw [List.getElem?_append]
  split
  · rfl
  · by_cases h2 : i = r.length
    · simp [h2]
    · rw [if_neg h2, List.getElem?_eq_none (by simp; omega)]

/-! ### DROP COLUMN -/
theorem drop_column_preserves_others (s : DbState) (tn : String) (t : TableSt) (i : Nat)
    (hf : s.find tn = some t) :
    ((step s (.dropColumn tn i)).1.find tn).map (·.rows) = some (t.rows.map (·.eraseIdx i)) ∧
    ((step s (.dropColumn tn i)).1.find tn).map (·.cols) = some (t.cols.eraseIdx i) := by
  have := find_put s tn t { t with cols := t.cols.eraseIdx i, rows := t.rows.map (·.eraseIdx i) } hf rfl
  simp only [step, hf, this, Option.map_some, and_self]

/-- positions before the dropped column keep their value, positions after it shift down by one
(the row-level content of DESIGN §5.C21's `project others (dropCol c t) = project others t`) -/
theorem drop_column_row (r : Row) (i j : Nat) :
    (r.eraseIdx i)[j]? = if j < i then r[j]? else r[j + 1]? := by
  simp [List.getElem?_eraseIdx]

/-! ### RENAME COLUMN -/
theorem rename_keeps_values (s : DbState) (tn : String) (t : TableSt) (i : Nat) (n : String)
    (hf : s.find tn = some t) :
    ((step s (.renameColumn tn i n)).1.find tn).map (·.rows) = some t.rows ∧
    ((step s (.renameColumn tn i n)).1.find tn).map (fun t' => t'.cols.map (·.name)) =
      some ((t.cols.map (·.name)).set i n |>.take t.cols.length) := by
  have := find_put s tn t { t with cols := t.cols.modify i (fun c => { c with name := n }) } hf rfl
  simp only [step, hf, this, Option.map_some, true_and]
  congr 1
  -- `take` only cuts the list back to its length
  rw [List.take_of_length_le (by simp)]
  apply List.ext_getElem?
  intro j
  by_cases hji : i = j
  · subst hji
    rcases Nat.lt_or_ge i t.cols.length with hj | hj <;> simp [hj, Nat.not_lt.mpr]
  · simp [hji]

/-! ### TRUNCATE, DROP TABLE -/
theorem truncate_empties (s : DbState) (tn : String) (t : TableSt) (hf : s.find tn = some t)
    (hv : dbValid (s.put { t with rows := [] }) = .ok true) :
    ((step s (.truncate tn)).1.find tn).map (·.rows) = some [] := by
  have := find_put s tn t { t with rows := [] } hf rfl
  simp only [step, hf, applyValid, hv, this, Option.map_some]

theorem drop_table_state (s : DbState) (tn : String) (t : TableSt) (hf : s.find tn = some t) :
    (step s (.dropTable tn)).1 = { s with tables := s.tables.filter (·.name != tn) } := by
  simp only [step, hf]

theorem drop_table_removes (s : DbState) (tn : String) (t : TableSt) (hf : s.find tn = some t) :
    (step s (.dropTable tn)).1.find tn = none := by
  rw [drop_table_state s tn t hf]
  simp [DbState.find, List.find?_filter]

/-- other tables are untouched by DROP TABLE -/
theorem drop_table_keeps_others (s : DbState) (tn other : String) (t : TableSt)
    (hf : s.find tn = some t) (hne : other ≠ tn) :
    (step s (.dropTable tn)).1.find other = s.find other := by
  rw [drop_table_state s tn t hf]
  simp only [DbState.find, List.find?_filter]
  congr 1
  funext x
  by_cases hx : x.name = other
  · simp [hx, hne]
  · simp [hx]

/-! ### CREATE / DROP INDEX -/
theorem create_index_no_effect (s : St) (d : IdxDef) (hu : d.unique = false) :
    (ddl s (.createIndex d)).1.db = s.db := by
  simp only [ddl]
  split
  · rfl
  · split
    · rfl
    · simp [hu]

theorem drop_index_no_effect (s : St) (n : String) (d : IdxDef)
    (hfind : s.idx.find? (·.name == n) = some d) (hu : d.unique = false) :
    (ddl s (.dropIndex n)).1.db = s.db := by
  simp only [ddl, hfind, hu]
  rfl

/-! ### all of the above survive the identity `reopen` -/
theorem add_column_after_reopen (s : DbState) (tn : String) (t : TableSt) (c : ColDef)
    (hf : s.find tn = some t) :
    ((reopen (step s (.addColumn tn c)).1).find tn).map (·.rows) = some (t.rows.map (· ++ [c.dflt])) :=
  (add_column_reads_default s tn t c hf).1

theorem drop_column_after_reopen (s : DbState) (tn : String) (t : TableSt) (i : Nat)
    (hf : s.find tn = some t) :
    ((reopen (step s (.dropColumn tn i)).1).find tn).map (·.rows) = some (t.rows.map (·.eraseIdx i)) :=
  (drop_column_preserves_others s tn t i hf).1

theorem rename_after_reopen (s : DbState) (tn : String) (t : TableSt) (i : Nat) (n : String)
    (hf : s.find tn = some t) :
    ((reopen (step s (.renameColumn tn i n)).1).find tn).map (·.rows) = some t.rows :=
  (rename_keeps_values s tn t i n hf).1

theorem drop_table_after_reopen (s : DbState) (tn : String) (t : TableSt) (hf : s.find tn = some t) :
    (reopen (step s (.dropTable tn)).1).find tn = none :=
  drop_table_removes s tn t hf

/-! ### non-vacuity: a concrete history through the DDL catalogue -/
example :
    let t : TableSt := { name := "t", cols := [{ name := "id", pk := true }, { name := "a" }, { name := "b" }],
                         rows := [[.int 1, .int 10, .text "x"], [.int 2, .null, .text "y"]] }
    let s0 : St := { db := { tables := [t] } }
    let s1 := (ddl s0 (.addColumn "t" { name := "c", dflt := .int 7 })).1
    let s2 := (ddl s1 (.dropColumn "t" 1)).1
    let s3 := (ddl s2 (.renameColumn "t" 1 "bb")).1
    let s4 := (ddl s3 .reopen).1
    ((s4.db.find "t").map (fun t => (t.cols.map (·.name), t.rows)) =
      some (["id", "bb", "c"], [[.int 1, .text "x", .int 7], [.int 2, .text "y", .int 7]])) ∧
    (((ddl s4 (.truncate "t")).1.db.find "t").map (·.rows) = some []) ∧
    ((ddl s4 (.dropTable "t")).1.db.find "t").isNone := by
  decide

end TurVerif.C21
