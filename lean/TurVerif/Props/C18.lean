import TurVerif.Model.SqlSub
import TurVerif.Props.C14
/-!
C18  Subqueries (IN / NOT IN / EXISTS / scalar, correlated or not) and set operations.

Theorems about the reference semantics `TurVerif.SqlSub` (subqueries) and `TurVerif.Sql`
(set operations).  Every law about `evalStep rec` is proved for an ARBITRARY child evaluator
`rec`, hence for every nesting depth (`evalS (n+1) = evalStep (evalS n)`).
-/
namespace TurVerif.C18
open TurVerif.Sql TurVerif.SqlSub

theorem inSub_ok {rec : Row → SExpr → Except Err Val} {db : Db} {env : Row} {e : SExpr}
    {q : SQuery} {neg : Bool} {x w : Val} {vs : List Val}
    (he : rec env e = .ok x) (hq : subVals rec db env q = .ok vs)
    (h : evalStep rec db env (.inSub e q neg) = .ok w) :
    ∃ tv, inFold x vs = .ok tv ∧ w = Val.ofTri (if neg then tv.not else tv) := by
  simp only [evalStep, he, hq] at h
  split at h
  · cases h
  · rename_i tv htv
    injection h with h
    exact ⟨tv, htv, h.symm⟩

/-- decidable equality of results (for `decide` on concrete witnesses) -/
instance instDecEqExcept {ε α : Type} [DecidableEq ε] [DecidableEq α] : DecidableEq (Except ε α)
  | .ok x, .ok y => decidable_of_iff (x = y) ⟨congrArg _, Except.ok.inj⟩
  | .error x, .error y => decidable_of_iff (x = y) ⟨congrArg _, Except.error.inj⟩
  | .ok _, .error _ => isFalse nofun
  | .error _, .ok _ => isFalse nofun

theorem isTrue_iff (tv : Tri) : tv.isTrue = true ↔ tv = .t := by cases tv <;> simp [Tri.isTrue]

/-- the verdict of `filterEnv` on a row as a `Bool`: only TRUE keeps it -/
def envKept (ev : Row → Except Err Val) (env r : Row) : Bool :=
  match ev (r ++ env) with
  | .ok v => match v.truth with
    | .ok tv => tv.isTrue
    | .error _ => false
  | .error _ => false

theorem envKept_iff {ev : Row → Except Err Val} {env r : Row} :
    envKept ev env r = true ↔ ∃ v, ev (r ++ env) = .ok v ∧ v.truth = .ok .t := by
  unfold envKept
  constructor
  · intro h
    split at h
    · rename_i v hv
      split at h
      · rename_i tv htv
        exact ⟨v, hv, (isTrue_iff tv).mp h ▸ htv⟩
      · cases h
    · cases h
  · rintro ⟨v, hv, ht⟩
    simp only [hv, ht, Tri.isTrue]

theorem filterEnv_eq_filter {ev : Row → Except Err Val} {env : Row} {rows kept : List Row}
    (h : filterEnv ev env rows = .ok kept) : kept = rows.filter (envKept ev env) := by
  fun_induction filterEnv ev env rows generalizing kept with
  | case1 => cases h; rfl
  | case2 r rs v out hout hv tv htv ih =>
    cases h
    rw [List.filter_cons, ← ih hout]
    unfold envKept
    simp only [hv, htv]
  | case3 | case4 | case5 => cases h

theorem mapEnv_length {ev : Row → Except Err Val} {env : Row} {rows : List Row} {vs : List Val}
    (h : mapEnv ev env rows = .ok vs) : vs.length = rows.length := by
  fun_induction mapEnv ev env rows generalizing vs with
  | case1 => cases h; rfl
  | case2 r rs v out hout hv ih => cases h; exact congrArg (· + 1) (ih hout)
  | case3 | case4 => cases h

theorem memRow_iff (r : Row) (l : List Row) : memRow r l = true ↔ ∃ y ∈ l, rowSame r y = true := by
  simp [memRow, List.any_eq_true]

theorem memRow_congr {r s : Row} (h : rowSame r s = true) (l : List Row) :
    memRow r l = memRow s l :=
  congrArg l.any (funext (rowSame_congr_left h))

/-- filtering by a condition that does not tell same rows apart -/
theorem memRow_filter {q : Row → Bool} (hq : ∀ {r s}, rowSame r s = true → q r = q s)
    (r : Row) (a : List Row) : memRow r (a.filter q) = (memRow r a && q r) := by
  rw [Bool.eq_iff_iff, Bool.and_eq_true, memRow_iff, memRow_iff]
  simp only [List.mem_filter]
  constructor
  · rintro ⟨y, ⟨hy, hyq⟩, hry⟩
    exact ⟨⟨y, hy, hry⟩, (hq hry).trans hyq⟩
  · rintro ⟨⟨y, hy, hry⟩, hrq⟩
    exact ⟨y, ⟨hy, (hq hry).symm.trans hrq⟩, hry⟩

/-- `x IN (subquery)` as a filter is a semi-join: the outer row is kept exactly when a
matching subquery value exists -/
theorem in_semi_join {rec : Row → SExpr → Except Err Val} {db : Db} {env : Row} {e : SExpr}
    {q : SQuery} {x w : Val} {vs : List Val}
    (he : rec env e = .ok x) (hq : subVals rec db env q = .ok vs)
    (h : evalStep rec db env (.inSub e q false) = .ok w) :
    w.truth = .ok .t ↔ ∃ v ∈ vs, cmpVals .eq x v = .ok (.bool true) := by
  obtain ⟨tv, htv, rfl⟩ := inSub_ok he hq h
  rw [← C14.inFold_true_iff htv, Val.truth_ofTri]
  simp

theorem not_in_keeps_iff {rec : Row → SExpr → Except Err Val} {db : Db} {env : Row} {e : SExpr}
    {q : SQuery} {x w : Val} {vs : List Val}
    (he : rec env e = .ok x) (hq : subVals rec db env q = .ok vs)
    (h : evalStep rec db env (.inSub e q true) = .ok w) :
    w.truth = .ok .t ↔ ∀ v ∈ vs, cmpVals .eq x v = .ok (.bool false) := by
  obtain ⟨tv, htv, rfl⟩ := inSub_ok he hq h
  rw [← C14.inFold_false_iff htv, Val.truth_ofTri]
  simp [C14.not_eq_t]

theorem not_in_null_never_true {rec : Row → SExpr → Except Err Val} {db : Db} {env : Row}
    {e : SExpr} {q : SQuery} {x w : Val} {vs : List Val}
    (he : rec env e = .ok x) (hq : subVals rec db env q = .ok vs) (hnull : Val.null ∈ vs)
    (h : evalStep rec db env (.inSub e q true) = .ok w) : w.truth ≠ .ok .t := by
  obtain ⟨tv, htv, rfl⟩ := inSub_ok he hq h
  have := C14.in_list_with_null_not_false x vs tv hnull htv
  rw [Val.truth_ofTri]
  simpa [C14.not_eq_t] using this

/-- empty subquery: NOT IN is TRUE, even for a NULL left-hand side -/
theorem not_in_empty_true {rec : Row → SExpr → Except Err Val} {db : Db} {env : Row}
    {e : SExpr} {q : SQuery} {x : Val}
    (hq : subVals rec db env q = .ok []) (he : rec env e = .ok x) :
    evalStep rec db env (.inSub e q true) = .ok (.bool true) := by
  simp [evalStep, he, hq, inFold, Tri.not, Val.ofTri]

/-- the tables of the NOT IN / anti-join witness -/
def dbA : Db :=
  [{ name := "t", ncols := 1, rows := [[.int 1]] },
   { name := "u", ncols := 1, rows := [[.null], [.int 2]] }]
/-- `SELECT a FROM t WHERE a NOT IN (SELECT a FROM u)` -/
def qNotIn : STop :=
  { frm := .table "t",
    whr := .inSub (.base (.col 0)) (.sel "u" (.base (.lit (.bool true))) (.expr (.base (.col 0)))) true,
    items := [.base (.col 0)] }
/-- `SELECT a FROM t WHERE NOT EXISTS (SELECT a FROM u WHERE u.a = t.a)` -/
def qAnti : STop :=
  { frm := .table "t",
    whr := .exists (.sel "u" (.base (.bin .eq (.col 0) (.col 1))) (.expr (.base (.col 0)))) true,
    items := [.base (.col 0)] }

/-- the plain anti-join (`NOT EXISTS` with an equality) is NOT equivalent to `NOT IN` when the
subquery yields a NULL: NOT IN keeps nothing, the anti-join keeps the row -/
theorem not_in_null_aware_anti_join :
    runTop 8 dbA qNotIn = .ok [] ∧ runTop 8 dbA qAnti = .ok [[.int 1]] := by decide

theorem filterEnv_mem_iff {ev : Row → Except Err Val} {env : Row} {rows kept : List Row} {r : Row}
    (h : filterEnv ev env rows = .ok kept) :
    r ∈ kept ↔ r ∈ rows ∧ ∃ v, ev (r ++ env) = .ok v ∧ v.truth = .ok .t := by
  rw [filterEnv_eq_filter h, List.mem_filter, envKept_iff]

theorem filterEnv_sublist {ev : Row → Except Err Val} {env : Row} {rows kept : List Row}
    (h : filterEnv ev env rows = .ok kept) : kept.Sublist rows :=
  filterEnv_eq_filter h ▸ List.filter_sublist

/-- EXISTS is TRUE exactly when some inner row satisfies the (correlated) WHERE under the outer
environment, and it is two-valued -/
theorem exists_semi {rec : Row → SExpr → Except Err Val} {db : Db} {env : Row} {tbl : String}
    {t : Table} {whr e : SExpr} {kept : List Row} {vs : List Val} {neg : Bool}
    (hfind : db.find tbl = some t)
    (hkept : filterEnv (fun r => rec r whr) env t.rows = .ok kept)
    (hq : subVals rec db env (.sel tbl whr (.expr e)) = .ok vs) :
    evalStep rec db env (.exists (.sel tbl whr (.expr e)) neg) = .ok (.bool ((!kept.isEmpty) != neg)) := by
  have hlen : vs.length = kept.length := by
    simp only [subVals, hfind, hkept] at hq
    exact mapEnv_length hq
  have : vs.isEmpty = kept.isEmpty := by
    rw [Bool.eq_iff_iff, List.isEmpty_iff, List.isEmpty_iff, ← List.length_eq_zero_iff,
      ← List.length_eq_zero_iff, hlen]
  simp only [evalStep, hq, this]

theorem exists_two_valued {rec : Row → SExpr → Except Err Val} {db : Db} {env : Row} {q : SQuery}
    {neg : Bool} {w : Val} (h : evalStep rec db env (.exists q neg) = .ok w) :
    w = .bool true ∨ w = .bool false := by
  simp only [evalStep] at h
  split at h
  · cases h
  · injection h with h; subst h
    cases (!(_ : List Val).isEmpty) != neg <;> simp

/-- an aggregate subquery always has one row, so EXISTS over it is always TRUE -/
theorem exists_countstar_always_true {rec : Row → SExpr → Except Err Val} {db : Db} {env : Row}
    {tbl : String} {t : Table} {whr : SExpr} {kept : List Row}
    (hfind : db.find tbl = some t)
    (hkept : filterEnv (fun r => rec r whr) env t.rows = .ok kept) :
    evalStep rec db env (.exists (.sel tbl whr .countStar) false) = .ok (.bool true) := by
  simp [evalStep, subVals, hfind, hkept]

theorem scalar_zero_rows {rec : Row → SExpr → Except Err Val} {db : Db} {env : Row} {q : SQuery}
    (hq : subVals rec db env q = .ok []) : evalStep rec db env (.scalar q) = .ok .null := by
  simp [evalStep, hq, scalarOf]

theorem scalar_one_row {rec : Row → SExpr → Except Err Val} {db : Db} {env : Row} {q : SQuery}
    {v : Val} (hq : subVals rec db env q = .ok [v]) :
    evalStep rec db env (.scalar q) = .ok v := by
  simp [evalStep, hq, scalarOf]

theorem scalar_many_rows {rec : Row → SExpr → Except Err Val} {db : Db} {env : Row} {q : SQuery}
    {v₁ v₂ : Val} {vs : List Val} (hq : subVals rec db env q = .ok (v₁ :: v₂ :: vs)) :
    evalStep rec db env (.scalar q) = .error .card := by
  simp [evalStep, hq, scalarOf]

theorem scalar_total {rec : Row → SExpr → Except Err Val} {db : Db} {env : Row} {q : SQuery}
    {vs : List Val} (hq : subVals rec db env q = .ok vs) :
    (evalStep rec db env (.scalar q) = .ok .null ∧ vs = []) ∨
    (∃ v, vs = [v] ∧ evalStep rec db env (.scalar q) = .ok v) ∨
    (2 ≤ vs.length ∧ evalStep rec db env (.scalar q) = .error .card) := by
  match vs, hq with
  | [], hq => exact Or.inl ⟨scalar_zero_rows hq, rfl⟩
  | [v], hq => exact Or.inr (Or.inl ⟨v, rfl, scalar_one_row hq⟩)
  | v₁ :: v₂ :: rest, hq =>
    exact Or.inr (Or.inr ⟨by simp, scalar_many_rows hq⟩)

theorem subVals_one_row {rec : Row → SExpr → Except Err Val} {db : Db} {env : Row}
    {tbl : String} {whr : SExpr} {item : SItem} {vs : List Val}
    (h : subVals rec db env (.sel tbl whr item) = .ok vs) (hitem : ∀ e, item ≠ .expr e) :
    vs.length = 1 := by
  simp only [subVals] at h
  split at h
  · cases h
  · split at h
    · cases h
    · cases item with
      | expr e => exact absurd rfl (hitem e)
      | countStar => cases h; rfl
      | agg fn e =>
        dsimp only at h
        split at h
        · cases h
        · split at h
          · cases h
          · cases h; rfl

theorem agg_subquery_one_row {rec : Row → SExpr → Except Err Val} {db : Db} {env : Row}
    {tbl : String} {whr e : SExpr} {fn : AggFn} {vs : List Val}
    (h : subVals rec db env (.sel tbl whr (.agg fn e)) = .ok vs) : vs.length = 1 :=
  subVals_one_row h fun _ h => nomatch h

theorem countStar_subquery_one_row {rec : Row → SExpr → Except Err Val} {db : Db} {env : Row}
    {tbl : String} {whr : SExpr} {vs : List Val}
    (h : subVals rec db env (.sel tbl whr .countStar) = .ok vs) : vs.length = 1 :=
  subVals_one_row h fun _ h => nomatch h

theorem scalar_agg_no_card {rec : Row → SExpr → Except Err Val} {db : Db} {env : Row}
    {tbl : String} {whr e : SExpr} {fn : AggFn} {vs : List Val}
    (h : subVals rec db env (.sel tbl whr (.agg fn e)) = .ok vs) :
    ∃ v, vs = [v] ∧ evalStep rec db env (.scalar (.sel tbl whr (.agg fn e))) = .ok v := by
  obtain ⟨v, rfl⟩ := List.length_eq_one_iff.mp (agg_subquery_one_row h)
  exact ⟨v, rfl, scalar_one_row h⟩

theorem count_star_empty {rec : Row → SExpr → Except Err Val} {db : Db} {env : Row}
    {tbl : String} {t : Table} {whr : SExpr}
    (hfind : db.find tbl = some t)
    (hkept : filterEnv (fun r => rec r whr) env t.rows = .ok []) :
    subVals rec db env (.sel tbl whr .countStar) = .ok [.int 0] := by
  simp [subVals, hfind, hkept]

theorem evalS_succ (n : Nat) (db : Db) (env : Row) (e : SExpr) :
    evalS (n + 1) db env e = evalStep (evalS n db) db env e := rfl

theorem evalS_zero (db : Db) (env : Row) (e : SExpr) : evalS 0 db env e = .error .other := rfl

/-- tables of the correlated scalar subquery example: `t(a)`, `u(a, b)`; `t.a = 1` has no
partner in `u`, `t.a = 2` exactly one, `t.a = 3` two -/
def dbC : Db :=
  [{ name := "t", ncols := 1, rows := [[.int 1], [.int 2], [.int 3]] },
   { name := "u", ncols := 2, rows := [[.int 2, .int 20], [.int 3, .int 30], [.int 3, .int 31]] }]
/-- `SELECT (SELECT u.b FROM u WHERE u.a = t.a) FROM t WHERE t.a = k`; inside the subquery
`col 0 = u.a`, `col 1 = u.b`, `col 2 = t.a` -/
def qCorr (k : Int) : STop :=
  { frm := .table "t",
    whr := .base (.bin .eq (.col 0) (.lit (.int k))),
    items := [.scalar (.sel "u" (.base (.bin .eq (.col 0) (.col 2))) (.expr (.base (.col 1))))] }

theorem correlated_scalar_none : runTop 8 dbC (qCorr 1) = .ok [[.null]] := by decide

theorem correlated_scalar_one : runTop 8 dbC (qCorr 2) = .ok [[.int 20]] := by decide

theorem correlated_scalar_many : runTop 8 dbC (qCorr 3) = .error .card := by decide

theorem same_refl (a : Val) : Val.same a a = true := (Val.same_iff a a).mpr rfl
theorem same_symm (a b : Val) : Val.same a b = Val.same b a := by
  rw [Bool.eq_iff_iff, Val.same_iff, Val.same_iff]; exact eq_comm
theorem same_trans {a b c : Val} (h1 : Val.same a b = true) (h2 : Val.same b c = true) :
    Val.same a c = true := by
  rw [Val.same_iff] at *; exact h1.trans h2

/-- row sameness is an equivalence relation (`Sql.rowSame_comm`, `Sql.rowSame_trans`) -/
theorem rowSame_refl (a : Row) : rowSame a a = true := Sql.rowSame_refl a

theorem union_eq_distinct_unionAll (a b : List Row) : union a b = distinct (unionAll a b) := rfl

theorem memRow_distinct (r : Row) (l : List Row) : memRow r (distinct l) = memRow r l := by
  induction l with
  | nil => rfl
  | cons x xs ih =>
    -- `r` is found at `x`, or further on among the rows that are not the same as `x`
    show (rowSame r x || memRow r ((distinct xs).filter fun y => !rowSame x y))
      = (rowSame r x || memRow r xs)
    rw [memRow_filter fun h => congrArg not (rowSame_congr_right h x), ih, rowSame_comm x r]
    cases rowSame r x <;> cases memRow r xs <;> rfl

theorem union_nodup (a b : List Row) :
    (union a b).Pairwise (fun x y => rowSame x y = false) := distinct_pairwise _
theorem intersect_nodup (a b : List Row) :
    (intersect a b).Pairwise (fun x y => rowSame x y = false) := distinct_pairwise _
theorem except_nodup (a b : List Row) :
    (except a b).Pairwise (fun x y => rowSame x y = false) := distinct_pairwise _

theorem mem_union_iff (r : Row) (a b : List Row) :
    memRow r (union a b) = (memRow r a || memRow r b) := by
  unfold union
  rw [memRow_distinct]
  simp [memRow, List.any_append]

theorem mem_intersect_iff (r : Row) (a b : List Row) :
    memRow r (intersect a b) = (memRow r a && memRow r b) := by
  unfold intersect
  rw [memRow_distinct, memRow_filter fun h => memRow_congr h b]

theorem mem_except_iff (r : Row) (a b : List Row) :
    memRow r (except a b) = (memRow r a && !memRow r b) := by
  unfold except
  rw [memRow_distinct, memRow_filter fun h => congrArg not (memRow_congr h b)]

theorem unionAll_count (a b : List Row) : (unionAll a b).length = a.length + b.length :=
  List.length_append

theorem unionAll_perm_comm (a b : List Row) : (unionAll a b).Perm (unionAll b a) :=
  List.perm_append_comm

theorem null_rows_not_distinct :
    distinct [[.null], [.null]] = [[.null]] ∧ intersect [[.null]] [[.null]] = [[.null]] := by
  decide

end TurVerif.C18
