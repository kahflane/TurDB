import TurVerif.Lemmas.Leaf
import TurVerif.Lemmas.BTree
/-!
C29  B-tree pages stay structurally valid.

Leaf level (M-code model `TurVerif.Leaf`, transcription of src/btree/leaf.rs and of the
single-leaf parts of src/btree/tree.rs): the page invariant `WF` (slot area = [24, freeStart),
freeStart ≤ freeEnd ≤ 16384, every cell extent inside [freeEnd, 16384), extents pairwise disjoint,
live bytes ≤ cell area, stored prefix = extract_prefix key, keys strictly increasing) holds for
`init` and is preserved by every leaf operation under its documented precondition, and by
`BTree::delete` / `BTree::update` on the reached leaf — also on the error path of the growing
update, where the page is left in the state after `delete_cell`.

Tree level (M-spec model `TurVerif.BTree`): the separator / key-order invariant `Tree.WF` is preserved
by insert under every split policy and by delete.
-/
namespace TurVerif.C29
open TurVerif.Leaf
open TurVerif.Simd (cmpBytes SearchResult)

/-- header arithmetic of `place`: `n` slots, `sz` the new cell, `live + live'` the live bytes -/
theorem place_arith {fs fe n sz live live' : Nat} (hfs : fs = 24 + 8 * n) (hfe : fe ≤ 16384)
    (hlive : live + live' ≤ 16384 - fe) (hsp : sz + 8 ≤ fe - fs) :
    fs + 8 = 24 + 8 * (n + 1) ∧ fs + 8 ≤ fe - sz ∧ fe - sz ≤ 16384 ∧ fe - sz + sz = fe ∧
      live + (sz + live') ≤ 16384 - (fe - sz) := by omega

/-- the common tail of the three inserts, at the position `find_key` answers for the absent key:
it cuts the slots into the keys below and the keys above the new key -/
theorem wf_place {l : Leaf} {k v : List Nat} {pos : Nat} (w : WF l)
    (hsp : cellSize k v + 8 ≤ freeSpace l) (hf : findKey l k = .notFound pos) :
    WF (place l k v pos) := by
  obtain ⟨pre, post, hc, hpre, hnf, _⟩ := findFrom_cut k l.cells 0
  obtain ⟨hn, hgt⟩ := hnf pos hf
  obtain rfl : pos = pre.length := by omega
  have hpost := C30.lt_of_head_gt (key := Cell.key) (List.pairwise_append.mp (hc ▸ w.sorted)).2.1 hgt
  have hfs := w.fs; have hlive := w.live; have hin := w.inPage
  dsimp only [place]
  rw [hc, insertAt_append]
  rw [hc] at hfs hlive hin
  rw [sumSizes_append] at hlive
  rw [List.length_append] at hfs
  obtain ⟨a1, a2, a3, a4, a5⟩ := place_arith hfs w.fe hlive hsp
  refine ⟨?_, a2, a3, w.frag, ?_, ?_, ?_, ?_, ?_⟩ <;> dsimp only
  · rw [List.length_append, List.length_cons]; exact a1
  · intro c hc'
    rcases mem_mid.mp hc' with rfl | hx
    · exact ⟨Nat.le_refl _, Nat.le_trans (Nat.le_of_eq a4) w.fe⟩
    · exact ⟨Nat.le_trans (Nat.sub_le ..) (hin c hx).1, (hin c hx).2⟩
  · refine (List.pairwise_middle Disj.symm).mpr (List.pairwise_cons.mpr ⟨fun x hx => ?_, hc ▸ w.disj⟩)
    exact .inl (Nat.le_trans (Nat.le_of_eq a4) (hin x hx).1)
  · rw [sumSizes_append, sumSizes]; exact a5
  · intro c hc'
    rcases mem_mid.mp hc' with rfl | hx
    · rfl
    · exact w.pre c (hc ▸ hx)
  · have hs := List.pairwise_append.mp (hc ▸ w.sorted)
    exact List.pairwise_append.mpr ⟨hs.1, List.pairwise_cons.mpr ⟨hpost, hs.2.1⟩, fun x hx y hy =>
      (List.mem_cons.mp hy).elim (fun e => e ▸ hpre x hx) (hs.2.2 x hx y)⟩

/-- replacing the value of cell `i` by one whose encoding is not longer, in place -/
theorem wf_setVal {l : Leaf} {i : Nat} {c : Cell} {v : List Nat} {fr : Nat} (w : WF l)
    (hc : l.cells[i]? = some c) (hsz : cellSize c.key v ≤ c.size) (hfr : fr < 256) :
    WF { l with cells := modifyAt (fun c => { c with val := v }) l.cells i, frag := fr } := by
  obtain ⟨pre, post, hcut, rfl⟩ := cut_of_getElem? hc
  rw [hcut, modifyAt_append]
  have hsz' : ({ c with val := v } : Cell).size ≤ c.size := hsz
  have hfs := w.fs; have hlive := w.live; have hin := w.inPage; have hpre := w.pre
  rw [hcut] at hfs hlive hin hpre
  rw [sumSizes_append, sumSizes] at hlive
  have hc' := hin c (by simp)
  refine ⟨?_, w.fse, w.fe, hfr, ?_, ?_, ?_, ?_, ?_⟩ <;> dsimp only
  · simpa using hfs
  · intro x hx
    rcases mem_mid.mp hx with rfl | hx
    · exact ⟨hc'.1, Nat.le_trans (Nat.add_le_add_left hsz' _) hc'.2⟩
    · exact hin x (mem_mid.mpr (.inr hx))
  · exact pairwise_replace_mid (c := c) (hcut ▸ w.disj)
      (fun b hd => hd.imp_left (Nat.le_trans (Nat.add_le_add_left hsz' _)))
      (fun a hd => hd.imp_right (Nat.le_trans (Nat.add_le_add_left hsz' _)))
  · rw [sumSizes_append, sumSizes]
    exact Nat.le_trans (Nat.add_le_add_left (Nat.add_le_add_right hsz' _) _) hlive
  · intro x hx
    rcases mem_mid.mp hx with rfl | hx
    · exact hpre c (by simp)
    · exact hpre x (mem_mid.mpr (.inr hx))
  · exact pairwise_replace_mid (c := c) (hcut ▸ w.sorted) (fun _ h => h) (fun _ h => h)

/-- `LeafNodeMut::init` produces a well-formed page -/
theorem wf_init : WF init := by
  refine ⟨rfl, by decide, by decide, by decide, ?_, ?_, ?_, ?_, ?_⟩ <;> simp [init, sumSizes]

/-- `insert_cell` -/
theorem wf_insertCell {l l' : Leaf} {k v : List Nat} (w : WF l) (h : insertCell l k v = .ok l') :
    WF l' := by
  obtain ⟨hsp, pos, hf, rfl⟩ := insertCell_ok h
  exact wf_place w hsp hf

/-- `insert_cell_at`, called (as `insert_if_not_exists` does) with the position `find_key` returned -/
theorem wf_insertCellAt {l l' : Leaf} {k v : List Nat} {pos : Nat} (w : WF l)
    (hpos : findKey l k = .notFound pos) (h : insertCellAt l k v pos = .ok l') : WF l' := by
  obtain ⟨hsp, rfl⟩ := insertCellAt_ok h
  exact wf_place w hsp hpos

/-- `insert_at_end` under its contract: the key is greater than every key in the page -/
theorem wf_insertAtEnd {l l' : Leaf} {k v : List Nat} (w : WF l)
    (hmax : ∀ c ∈ l.cells, cmpBytes c.key k = .lt) (h : insertAtEnd l k v = .ok l') : WF l' := by
  obtain ⟨hsp, rfl⟩ := insertAtEnd_ok h
  exact wf_place w hsp (findKey_of_all_lt hmax)

/-- `compact` (reachable only through the verification hook, see `compact_unreachable`) -/
theorem wf_compact {l : Leaf} (w : WF l) : WF (compact l) := by
  rw [compact_eq]
  have hlive := w.live; have hfe := w.fe; have hfse := w.fse; have hfs := w.fs
  obtain ⟨h1, h2, h3, h4, h5, h6⟩ := compact_facts l.cells 16384 (by omega)
  refine ⟨?_, ?_, ?_, ?_, h3, h4, ?_, pre_of_map_key h6 w.pre, pairwise_of_map_key h6 w.sorted⟩
    <;> dsimp only <;> omega

/-- `delete_cell` -/
theorem wf_deleteCell {l l' : Leaf} {i : Nat} (w : WF l) (h : deleteCell l i = .ok l') : WF l' := by
  obtain ⟨c, hc, rfl⟩ := deleteCell_ok h
  obtain ⟨pre, post, hcut, rfl⟩ := cut_of_getElem? hc
  have hfs := w.fs; have hfse := w.fse; have hlive := w.live
  have hsub : (pre ++ post).Sublist l.cells :=
    hcut ▸ (List.sublist_cons_self c post).append_left pre
  unfold afterDelete
  rw [hcut, removeAt_append]
  rw [hcut, List.length_append, List.length_cons, ← Nat.add_assoc] at hfs
  rw [hcut, sumSizes_append, sumSizes] at hlive
  have ha : l.freeStart - 8 = 24 + 8 * (pre.length + post.length) ∧ l.freeStart - 8 ≤ l.freeEnd := by
    omega
  refine ⟨?_, ?_, w.fe, satAddU8_lt _ _, fun x hx => w.inPage x (hsub.subset hx),
    w.disj.sublist hsub, ?_, fun x hx => w.pre x (hsub.subset hx), w.sorted.sublist hsub⟩
    <;> dsimp only
  · rw [List.length_append]; exact ha.1
  · exact ha.2
  · rw [sumSizes_append]
    exact Nat.le_trans (Nat.add_le_add_left (Nat.le_add_left ..) _) hlive

/-- `update_cell_value_in_place` -/
theorem wf_updateInPlace {l l' : Leaf} {i : Nat} {v : List Nat} (w : WF l)
    (h : updateInPlace l i v = .ok l') : WF l' := by
  unfold updateInPlace at h
  split at h
  · simp at h
  · rename_i c hc
    split at h
    · simp at h
    · rename_i hlen
      simp only [Except.ok.injEq] at h
      subst h
      have hlen' : v.length = c.val.length := by simpa using hlen
      exact wf_setVal w hc (by unfold cellSize Cell.size cellSize; rw [hlen']; omega) w.frag

/-- `update_cell_value_shrink` -/
theorem wf_updateShrink {l l' : Leaf} {i : Nat} {v : List Nat} (w : WF l)
    (h : updateShrink l i v = .ok l') : WF l' := by
  unfold updateShrink at h
  split at h
  · simp at h
  · rename_i c hc
    split at h
    · simp at h
    · rename_i hlen
      simp only [Except.ok.injEq] at h
      subst h
      have hlen' : v.length < c.val.length := by simpa using hlen
      have := Varint.len_mono (Nat.le_of_lt hlen')
      exact wf_setVal w hc (by unfold cellSize Cell.size cellSize; omega) (satAddU8_lt _ _)

/-- `set_next_leaf` -/
theorem wf_setNext {l : Leaf} (w : WF l) (p : Nat) : WF (setNext l p) :=
  ⟨w.fs, w.fse, w.fe, w.frag, w.inPage, w.disj, w.live, w.pre, w.sorted⟩

/-- The compaction trigger can never fire on a well-formed page: `frag_bytes` is a `u8` (≤ 255)
and the threshold is (16384 − 24)/4 = 4090.  (DESIGN §10 item 25.) -/
theorem compact_unreachable {l : Leaf} (w : WF l) : shouldCompact l = false :=
  shouldCompact_false w.frag

/-- Consequence: `delete_cell` only removes the slot; the cell bytes are never reclaimed
(`free_end` does not move), i.e. deleted cells leak until the page is rebuilt by a split. -/
theorem delete_leaks_cell_space {l l' : Leaf} {i : Nat} (h : deleteCell l i = .ok l') :
    l'.freeEnd = l.freeEnd ∧ l'.freeStart = l.freeStart - 8 := by
  obtain ⟨c, _, rfl⟩ := deleteCell_ok h
  exact ⟨rfl, rfl⟩

/-- `BTree::delete` on the reached leaf -/
theorem wf_delete {l : Leaf} (w : WF l) (k : List Nat) : WF (delete l k).leaf := by
  unfold delete
  split
  · exact w
  · split
    · rename_i l' h; exact wf_deleteCell w h
    · exact w

/-- `BTree::update` on the reached leaf: the page is well formed after the call in every branch,
including the branch where `insert_cell` fails after `delete_cell` has been applied. -/
theorem wf_updateG (fixed : Bool) {l : Leaf} (w : WF l) (k v : List Nat) :
    WF (updateG fixed l k v).leaf := by
  unfold updateG
  cases findKey l k with
  | notFound _ => exact w
  | found i =>
    dsimp only
    cases l.cells[i]? with
    | none => exact w
    | some c =>
      dsimp only
      by_cases h1 : v.length = c.val.length
      · rw [if_pos h1]
        cases hu : updateInPlace l i v with
        | ok l' => exact wf_updateInPlace w hu
        | error e => exact w
      · rw [if_neg h1]
        by_cases h2 : v.length < c.val.length
        · rw [if_pos h2]
          cases hu : updateShrink l i v with
          | ok l' => exact wf_updateShrink w hu
          | error e => exact w
        · rw [if_neg h2]
          split
          · cases hd : deleteCell l i with
            | error e => exact w
            | ok l1 =>
              have w1 := wf_deleteCell w hd
              dsimp only
              cases hi : insertCell l1 k v with
              | ok l2 => exact wf_insertCell w1 hi
              | error e => exact w1
          · exact w

theorem wf_update {l : Leaf} (w : WF l) (k v : List Nat) : WF (update l k v).leaf :=
  wf_updateG false w k v

/-- the same for `BTree::update` after fix_update_grow.patch -/
theorem wf_updateFixed {l : Leaf} (w : WF l) (k v : List Nat) : WF (updateFixed l k v).leaf :=
  wf_updateG true w k v

inductive Op where
  | insert (k v : List Nat)
  | insertAt (k v : List Nat) (pos : Nat)
  | insertEnd (k v : List Nat)
  | delete (i : Nat)
  | updateInPlace (i : Nat) (v : List Nat)
  | updateShrink (i : Nat) (v : List Nat)
  | compact
  | setNext (p : Nat)

def step (l : Leaf) : Op → Except Err Leaf
  | .insert k v => insertCell l k v
  | .insertAt k v pos => insertCellAt l k v pos
  | .insertEnd k v => insertAtEnd l k v
  | .delete i => deleteCell l i
  | .updateInPlace i v => updateInPlace l i v
  | .updateShrink i v => updateShrink l i v
  | .compact => .ok (compact l)
  | .setNext p => .ok (setNext l p)

/-- the contracts: `insert_cell_at` gets the position returned by `find_key` (its doc comment in
leaf.rs); `insert_at_end` gets a key greater than every key of the page (leaf.rs states nothing; of its callers
in tree.rs `insert_into_leaf_append` assumes it, `try_fastpath_insert` compares with the last key) -/
def Pre (l : Leaf) : Op → Prop
  | .insertAt k _ pos => findKey l k = .notFound pos
  | .insertEnd k _ => ∀ c ∈ l.cells, cmpBytes c.key k = .lt
  | _ => True

/-- C29 (leaf pages): every leaf operation preserves the page invariant. Operations that fail
return no new page state (the model's `Except`; the harness checks that a failing call leaves the
real page bytes unchanged). -/
theorem wf_leaf_step {l l' : Leaf} {op : Op} (w : WF l) (hp : Pre l op) (h : step l op = .ok l') :
    WF l' := by
  cases op with
  | insert k v => exact wf_insertCell w h
  | insertAt k v pos => exact wf_insertCellAt w hp h
  | insertEnd k v => exact wf_insertAtEnd w hp h
  | delete i => exact wf_deleteCell w h
  | updateInPlace i v => exact wf_updateInPlace w h
  | updateShrink i v => exact wf_updateShrink w h
  | compact => simp only [step, Except.ok.injEq] at h; subst h; exact wf_compact w
  | setNext p => simp only [step, Except.ok.injEq] at h; subst h; exact wf_setNext w p

/-- run a list of operations, skipping the ones that fail (their page state is unchanged) -/
def runOps : Leaf → List Op → Leaf
  | l, [] => l
  | l, op :: ops => match step l op with
    | .ok l' => runOps l' ops
    | .error _ => runOps l ops

/-- every op in the list meets its precondition in the state it is applied to -/
def PreAll : Leaf → List Op → Prop
  | _, [] => True
  | l, op :: ops => Pre l op ∧ match step l op with
    | .ok l' => PreAll l' ops
    | .error _ => PreAll l ops

/-- C29 (leaf pages), histories: every page reachable from a well-formed page (`init`: `wf_init`) by
operations used within their contracts is well formed. -/
theorem wf_leaf_reachable (ops : List Op) : ∀ l, WF l → PreAll l ops → WF (runOps l ops) := by
  induction ops with
  | nil => intro l w _; exact w
  | cons op ops ih =>
    intro l w hp
    simp only [runOps]
    simp only [PreAll] at hp
    cases hs : step l op with
    | ok l' => simp only [hs] at hp ⊢; exact ih l' (wf_leaf_step w hp.1 hs) hp.2
    | error e => simp only [hs] at hp ⊢; exact ih l w hp.2

/-- non-vacuity: a concrete history (insert, insert, delete) reaches a non-empty well-formed page -/
example : ∃ l, WF l ∧ l.cells.length = 1 := by
  have w1 := wf_insertCell (l := init) (k := [2]) (v := [9, 9]) wf_init rfl
  have w2 := wf_insertCell (k := [1]) (v := [7]) w1 rfl
  have w3 := wf_deleteCell (i := 1) w2 rfl
  exact ⟨_, w3, rfl⟩

/-! ## Tree level (M-spec model `TurVerif.BTree`)

`Tree.WF t` = `WFb t.height t.root none none`: every leaf key-sorted, every separator strictly inside
the bounds of its page, left subtree < separator ≤ right subtree, recursively. All leaves at the same
depth holds by construction of `T n` (the model's type of height-`n` trees): `wf_tree_insert` /
`wf_tree_delete` therefore also say that split propagation + root growth and delete keep the depth
uniform. The split decisions (`Policy`) are arbitrary. -/
namespace Tree
open TurVerif.BTree TurVerif.OMap

def WF (t : BTree.Tree) : Prop := WFb t.height t.root none none

/-- `BTree::create` -/
theorem wf_tree_empty : WF BTree.Tree.empty :=
  ⟨by simp [BTree.Tree.empty, Sorted], by intro e he; simp [BTree.Tree.empty] at he⟩

/-- `BTree::insert` at the root: `insert_level`, and `create_new_root` when the root splits -/
theorem tree_insert_spec (p : Policy) (t : BTree.Tree) (k : Key) (v : List Nat) (w : WF t) :
    WF (t.insert p k v) ∧ (t.insert p k v).abs = insertNew t.abs k v := by
  have h := insert_level p k v t.height t.root none none w ⟨trivial, trivial⟩
  unfold BTree.Tree.insert WF BTree.Tree.abs
  cases hi : insertT p k v t.height t.root with
  | one r => rw [hi] at h; exact h
  | two l s r =>
    rw [hi] at h
    refine ⟨⟨h.1.1, h.1.2.1, h.1.2.2⟩, ?_⟩
    show Node.abs (absT t.height) ⟨[(l, s)], r⟩ = _
    rw [← h.2]; simp [Node.abs, Ins.abs]

/-- insert (any key, any split policy yielding non-empty halves, any number of propagated splits,
root growth) preserves the tree invariant -/
theorem wf_tree_insert (p : Policy) (t : BTree.Tree) (k : Key) (v : List Nat) (w : WF t) :
    WF (t.insert p k v) :=
  (tree_insert_spec p t k v w).1

/-- the height grows by at most one per insert (only through `create_new_root`) -/
theorem tree_insert_height (p : Policy) (t : BTree.Tree) (k : Key) (v : List Nat) :
    (t.insert p k v).height = t.height ∨ (t.insert p k v).height = t.height + 1 := by
  unfold BTree.Tree.insert
  cases insertT p k v t.height t.root with
  | one r => exact Or.inl rfl
  | two l s r => exact Or.inr rfl

/-- delete (no rebalancing) preserves the tree invariant and the height -/
theorem wf_tree_delete (t : BTree.Tree) (k : Key) (w : WF t) :
    WF (t.delete k) ∧ (t.delete k).height = t.height :=
  ⟨(delete_level k t.height t.root none none w ⟨trivial, trivial⟩).1, rfl⟩

inductive TOp where
  | insert (k : Key) (v : List Nat)
  | delete (k : Key)

def run (p : Policy) : BTree.Tree → List TOp → BTree.Tree
  | t, [] => t
  | t, .insert k v :: ops => run p (t.insert p k v) ops
  | t, .delete k :: ops => run p (t.delete k) ops

/-- C29 (tree level, histories): every tree reachable from the empty tree is well formed -/
theorem wf_tree_reachable (p : Policy) (ops : List TOp) : WF (run p BTree.Tree.empty ops) := by
  suffices h : ∀ t, WF t → WF (run p t ops) from h _ wf_tree_empty
  induction ops with
  | nil => intro t w; exact w
  | cons op ops ih =>
    intro t w
    cases op with
    | insert k v => exact ih _ (wf_tree_insert p t k v w)
    | delete k => exact ih _ (wf_tree_delete t k w).1

/-- the invariant implies the two clauses of C29 that speak about keys: the in-order key sequence is
strictly increasing (keys in every node increasing, separators bound their subtrees) -/
theorem wf_tree_sorted (t : BTree.Tree) (w : WF t) : Sorted t.abs :=
  (child_level t.height).sorted t.root none none w

end Tree

end TurVerif.C29
