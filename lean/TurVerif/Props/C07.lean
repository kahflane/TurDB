import TurVerif.Model.Undo
import TurVerif.Lemmas.SqlDb
/-!
C07  ROLLBACK and ROLLBACK TO SAVEPOINT restore the earlier state.

* M-code `TurVerif.Undo`: the engine's write-entry log, savepoints as log indices, reverse replay.
  Headline: undo logging refines snapshot restore (`undo_refines_snapshot`, `run_refines`,
  `undo_restores_map`, `rollback_to_restores_map`) for arbitrary statement sequences.
* M-spec `TurVerif.SqlDb`: the snapshot stack itself (`rollback_restores`, …).
* Where the engine's mechanism breaks the property: counterexamples on the faithful model
  (row counter, index entries, root page 1, savepoint name resolution).
-/
namespace TurVerif.C07
open TurVerif.Undo

theorem map_eraseIdx {β γ : Type} (f : β → γ) (l : List β) (i : Nat) :
    (l.eraseIdx i).map f = (l.map f).eraseIdx i := by
  induction l generalizing i with
  | nil => rfl
  | cons x xs ih =>
    cases i with
    | zero => rfl
    | succ i => simp [List.eraseIdx, ih]

/-! ### the association list as a finite map -/
section Helpers
variable {α : Type}

/-- maps as functions: the abstraction of the table B-tree -/
abbrev FMap (α : Type) := TKey → Option α

def fput (f : FMap α) (k : TKey) (v : α) : FMap α := fun k' => if k' = k then some v else f k'
def fdel (f : FMap α) (k : TKey) : FMap α := fun k' => if k' = k then none else f k'

theorem get_nil (k : TKey) : Undo.get ([] : List (TKey × α)) k = none := rfl

theorem get_cons (a : TKey) (v : α) (m : List (TKey × α)) (k : TKey) :
    Undo.get ((a, v) :: m) k = if a = k then some v else Undo.get m k := rfl

theorem get_del (m : List (TKey × α)) (k : TKey) : Undo.get (del m k) = fdel (Undo.get m) k := by
  funext k'
  induction m with
  | nil => simp [del, get_nil, fdel]
  | cons x m ih =>
    obtain ⟨a, v⟩ := x
    by_cases h : a = k
    · subst h
      simp only [del, if_true, ih, fdel, get_cons]
      by_cases h2 : k' = a
      · simp [h2]
      · have h3 : ¬ a = k' := fun e => h2 e.symm
        simp [h2, h3]
    · simp only [del, h, if_false, get_cons, ih, fdel]
      by_cases h3 : a = k'
      · subst h3; simp [h]
      · simp [h3]

theorem get_put (m : List (TKey × α)) (k : TKey) (v : α) :
    Undo.get (put m k v) = fput (Undo.get m) k v := by
  funext k'
  simp only [put, get_cons, get_del, fdel, fput, eq_comm (a := k)]
  split <;> rfl

/-- `undoEntry` on functions -/
def fundo (f : FMap α) (e : Entry α) : FMap α :=
  if e.isInsert then fdel f e.key
  else match e.undo with
    | some old => fput f e.key old
    | none => f

def fundoAll (f : FMap α) : List (Entry α) → FMap α
  | [] => f
  | e :: es => fundoAll (fundo f e) es

theorem get_undoEntry (m : List (TKey × α)) (e : Entry α) :
    Undo.get (undoEntry m e) = fundo (Undo.get m) e := by
  obtain ⟨k, ins, u⟩ := e
  cases ins
  · cases u
    · rfl
    · exact get_put m k _
  · exact get_del m k

theorem get_undoAll (m : List (TKey × α)) (l : List (Entry α)) :
    Undo.get (undoAll m l) = fundoAll (Undo.get m) l := by
  induction l generalizing m with
  | nil => rfl
  | cons e es ih => simp only [undoAll, fundoAll, ih, get_undoEntry]

theorem fundoAll_append (f : FMap α) (l1 l2 : List (Entry α)) :
    fundoAll f (l1 ++ l2) = fundoAll (fundoAll f l1) l2 := by
  induction l1 generalizing f with
  | nil => rfl
  | cons e es ih => simp only [List.cons_append, fundoAll, ih]

theorem fundo_of_ne (f : FMap α) (e : Entry α) (k : TKey) (h : k ≠ e.key) : fundo f e k = f k := by
  obtain ⟨ek, ins, u⟩ := e
  cases ins
  · cases u
    · rfl
    · exact if_neg h
  · exact if_neg h

theorem fundoAll_of_ne (f : FMap α) (l : List (Entry α)) (k : TKey) (h : ∀ e ∈ l, k ≠ e.key) :
    fundoAll f l k = f k := by
  induction l generalizing f with
  | nil => rfl
  | cons e es ih =>
    rw [fundoAll, ih _ (fun e' he' => h e' (List.mem_cons_of_mem _ he')),
      fundo_of_ne f e k (h e (List.mem_cons_self ..))]

/-- the entry a write logs records the old binding of its key (an insert entry: the key was absent),
so undoing it right after the write gives the old map back -/
theorem fundo_fput (f : FMap α) (k : TKey) (v : α) (ins : Bool) (u : Option α)
    (hu : f k = u) (hins : ins = u.isNone) :
    fundo (fput f k v) { key := k, isInsert := ins, undo := u } = f := by
  funext k'
  subst hu hins
  by_cases h : k' = k
  · subst h
    cases f k' <;> simp [fundo, fdel, fput]
  · rw [fundo_of_ne _ _ _ h]
    exact if_neg h

end Helpers

/-! ### the specification: a stack of snapshots -/
section Spec
variable {α : Type}

/-- spec state: current map, row-key counter, open transaction = snapshot taken at BEGIN plus the
savepoints in creation order, each with the snapshot taken when it was created -/
structure Snap (α : Type) where
  map : FMap α
  nextRow : Nat
  txn : Option (FMap α × List (String × FMap α))

/-- first savepoint with that name (the engine's `find_savepoint` discipline) -/
def findSnap : List (String × FMap α) → String → Option (Nat × FMap α)
  | [], _ => none
  | (m, snap) :: rest, n =>
    if m = n then some (0, snap)
    else match findSnap rest n with
      | some (i, x) => some (i + 1, x)
      | none => none

/-- snapshot semantics of one statement: ROLLBACK installs the BEGIN snapshot, ROLLBACK TO
installs the savepoint's snapshot, nothing else looks at old states -/
def sstep (s : Snap α) : Op α → Snap α × Bool
  | .insert tb v => ({ s with map := fput s.map (tb, s.nextRow) v, nextRow := s.nextRow + 1 }, true)
  | .modify k f =>
    match s.map k with
    | some old => ({ s with map := fput s.map k (f old) }, true)
    | none => (s, true)
  | .begin =>
    match s.txn with
    | some _ => (s, false)
    | none => ({ s with txn := some (s.map, []) }, true)
  | .commit =>
    match s.txn with
    | none => (s, false)
    | some _ => ({ s with txn := none }, true)
  | .rollback =>
    match s.txn with
    | none => (s, false)
    | some (b, _) => ({ s with map := b, txn := none }, true)
  | .savepoint n =>
    match s.txn with
    | none => (s, false)
    | some (b, sps) => ({ s with txn := some (b, sps ++ [(n, s.map)]) }, true)
  | .rollbackTo n =>
    match s.txn with
    | none => (s, false)
    | some (b, sps) =>
      match findSnap sps n with
      | none => (s, false)
      | some (i, snap) => ({ s with map := snap, txn := some (b, sps.take (i + 1)) }, true)
  | .release n =>
    match s.txn with
    | none => (s, false)
    | some (b, sps) =>
      match findSnap sps n with
      | none => (s, false)
      | some (i, _) => ({ s with txn := some (b, sps.eraseIdx i) }, true)

def srun (s : Snap α) : List (Op α) → Snap α
  | [] => s
  | op :: ops => srun (sstep s op).1 ops

/-- what a savepoint index denotes: the map after undoing the entries logged since -/
def snapAt (f : FMap α) (log : List (Entry α)) (idx : Nat) : FMap α :=
  fundoAll f (log.take (log.length - idx))

def absSps (f : FMap α) (log : List (Entry α)) (sps : List (String × Nat)) :
    List (String × FMap α) :=
  sps.map (fun p => (p.1, snapAt f log p.2))

/-- abstraction function from the undo-log state to the snapshot-stack state -/
def abs (c : St α) : Snap α :=
  { map := Undo.get c.map, nextRow := c.nextRow,
    txn := c.txn.map (fun t => (fundoAll (Undo.get c.map) t.log, absSps (Undo.get c.map) t.log t.sps)) }

/-- invariant of reachable undo-log states -/
structure WF (c : St α) : Prop where
  fresh : ∀ k : TKey, c.nextRow ≤ k.2 → Undo.get c.map k = none
  logKeys : ∀ t, c.txn = some t → ∀ e ∈ t.log, e.key.2 < c.nextRow
  spLe : ∀ t, c.txn = some t → ∀ p ∈ t.sps, p.2 ≤ t.log.length
  spMono : ∀ t, c.txn = some t → t.sps.Pairwise (fun p q => p.2 ≤ q.2)

theorem findSnap_abs (f : FMap α) (log : List (Entry α)) (sps : List (String × Nat)) (n : String) :
    findSnap (absSps f log sps) n = (findSp sps n).map (fun p => (p.1, snapAt f log p.2)) := by
  induction sps with
  | nil => rfl
  | cons p rest ih =>
    simp only [absSps, List.map_cons, findSnap, findSp] at ih ⊢
    split
    · rfl
    · rw [ih]; cases findSp rest n <;> rfl

/-- the savepoint `findSp` returns is the last of the first `i + 1`, and the earlier ones are older -/
theorem findSp_take (sps : List (String × Nat)) (n : String) (i idx : Nat)
    (h : findSp sps n = some (i, idx)) (hmono : sps.Pairwise (fun p q => p.2 ≤ q.2)) :
    (n, idx) ∈ sps.take (i + 1) ∧ ∀ p ∈ sps.take (i + 1), p.2 ≤ idx := by
  induction sps generalizing i with
  | nil => cases h
  | cons p rest ih =>
    obtain ⟨m, x⟩ := p
    simp only [findSp] at h
    split at h
    · next hm =>
      cases h; subst hm
      simp
    · cases hf : findSp rest n with
      | none => simp [hf] at h
      | some q =>
        obtain ⟨i', idx'⟩ := q
        simp only [hf, Option.some.injEq, Prod.mk.injEq] at h
        obtain ⟨rfl, rfl⟩ := h
        obtain ⟨hmem, hle⟩ := ih i' hf (List.pairwise_cons.mp hmono).2
        refine ⟨List.mem_cons_of_mem _ hmem, fun p hp => ?_⟩
        rcases List.mem_cons.mp hp with rfl | hp
        · exact (List.pairwise_cons.mp hmono).1 _ (List.mem_of_mem_take hmem)
        · exact hle p hp

/-- pushing the entry of a DML step does not change what the existing savepoints denote -/
theorem absSps_push (f f' : FMap α) (e : Entry α) (log : List (Entry α)) (sps : List (String × Nat))
    (hstep : fundo f' e = f) (hle : ∀ p ∈ sps, p.2 ≤ log.length) :
    absSps f' (e :: log) sps = absSps f log sps :=
  List.map_congr_left fun p hp => by
    simp only [snapAt, List.length_cons, Nat.succ_sub (hle p hp), List.take_succ_cons, fundoAll, hstep]

theorem absSps_savepoint (f : FMap α) (log : List (Entry α)) (sps : List (String × Nat)) (n : String) :
    absSps f log (sps ++ [(n, log.length)]) = absSps f log sps ++ [(n, f)] := by
  simp only [absSps, List.map_append, List.map_cons, List.map_nil, snapAt, Nat.sub_self,
    List.take_zero, fundoAll]

/-- after the newest `a` entries are undone and dropped, the older savepoints denote the same maps -/
theorem absSps_drop (f : FMap α) (log : List (Entry α)) (sps : List (String × Nat)) (a : Nat)
    (h : ∀ p ∈ sps, a + p.2 ≤ log.length) :
    absSps (fundoAll f (log.take a)) (log.drop a) sps = absSps f log sps :=
  List.map_congr_left fun p hp => by
    rw [snapAt, snapAt, List.length_drop, ← fundoAll_append, ← List.take_add, Nat.add_comm a,
      Nat.sub_right_comm, Nat.sub_add_cancel (Nat.le_sub_of_add_le (h p hp))]

theorem wf_none {m : List (TKey × α)} {nr : Nat} (h : ∀ k : TKey, nr ≤ k.2 → Undo.get m k = none) :
    WF (⟨m, nr, none⟩ : St α) :=
  ⟨h, nofun, nofun, nofun⟩

theorem wf_some {m : List (TKey × α)} {nr : Nat} {log : List (Entry α)} {sps : List (String × Nat)}
    (h : ∀ k : TKey, nr ≤ k.2 → Undo.get m k = none) (h1 : ∀ e ∈ log, e.key.2 < nr)
    (h2 : ∀ p ∈ sps, p.2 ≤ log.length) (h3 : sps.Pairwise (fun p q => p.2 ≤ q.2)) :
    WF (⟨m, nr, some ⟨log, sps⟩⟩ : St α) :=
  ⟨h, fun _ ht => by cases ht; exact h1, fun _ ht => by cases ht; exact h2,
    fun _ ht => by cases ht; exact h3⟩

/-- A write to a key below the (possibly raised) row counter, with the entry that records the old
binding logged: the invariant survives, the abstraction sees the new binding, and every snapshot
(BEGIN and savepoints) denotes what it did before. -/
theorem logEntry_sim (c : St α) (hwf : WF c) (k : TKey) (v : α) (nr' : Nat) (u : Option α)
    (hk : k.2 < nr') (hnr : c.nextRow ≤ nr') (hu : Undo.get c.map k = u) :
    let c' := logEntry { c with map := put c.map k v, nextRow := nr' }
      { key := k, isInsert := u.isNone, undo := u }
    WF c' ∧ abs c' = { abs c with map := fput (abs c).map k v, nextRow := nr' } := by
  have hundo := fundo_fput (Undo.get c.map) k v _ u hu rfl
  have hfresh : ∀ k' : TKey, nr' ≤ k'.2 → Undo.get (put c.map k v) k' = none := fun k' hk' => by
    have hne : ¬ k' = k := fun h => Nat.lt_irrefl _ (Nat.lt_of_lt_of_le hk (h ▸ hk'))
    rw [get_put, fput, if_neg hne]
    exact hwf.fresh k' (Nat.le_trans hnr hk')
  obtain ⟨m, nr, _ | ⟨log, sps⟩⟩ := c
  · exact ⟨wf_none hfresh, by simp only [logEntry, abs, get_put, Option.map_none]⟩
  · have hle := hwf.spLe _ rfl
    refine ⟨wf_some hfresh (fun e he => ?_) (fun p hp => Nat.le_succ_of_le (hle p hp))
      (hwf.spMono _ rfl), ?_⟩
    · rcases List.mem_cons.mp he with rfl | he
      · exact hk
      · exact Nat.lt_of_lt_of_le (hwf.logKeys _ rfl e he) hnr
    · simp only [logEntry, abs, get_put, Option.map_some, fundoAll, hundo,
        absSps_push _ _ _ log sps hundo hle]

/-- replaying entries of old keys creates no key at or above the row counter -/
theorem undoAll_fresh (m : List (TKey × α)) (l : List (Entry α)) (nr : Nat)
    (hfr : ∀ k : TKey, nr ≤ k.2 → Undo.get m k = none) (hl : ∀ e ∈ l, e.key.2 < nr)
    (k : TKey) (hk : nr ≤ k.2) : Undo.get (undoAll m l) k = none := by
  rw [get_undoAll,
    fundoAll_of_ne _ _ _ fun e he h => Nat.lt_irrefl _ (Nat.lt_of_lt_of_le (hl e he) (h ▸ hk))]
  exact hfr k hk

/-- Invariant and simulation are proved in one pass over the statements: the facts a case needs
about the log and the savepoints are the same for both. -/
theorem step_sim (c : St α) (hwf : WF c) (op : Op α) :
    WF (step c op).1 ∧ abs (step c op).1 = (sstep (abs c) op).1 ∧
      (step c op).2 = (sstep (abs c) op).2 := by
  cases op with
  | insert tb v =>
    have h := logEntry_sim c hwf (tb, c.nextRow) v (c.nextRow + 1) none (Nat.lt_succ_self _)
      (Nat.le_succ _) (hwf.fresh _ (Nat.le_refl _))
    exact ⟨h.1, h.2, rfl⟩
  | modify k f =>
    have hk : (abs c).map k = Undo.get c.map k := rfl
    cases hg : Undo.get c.map k with
    | none => simp only [step, sstep, hk, hg, and_self, and_true]; exact hwf
    | some old =>
      have hlt : k.2 < c.nextRow := Nat.lt_of_not_le fun h => by rw [hwf.fresh k h] at hg; cases hg
      simp only [step, sstep, hk, hg, and_true]
      exact logEntry_sim c hwf k (f old) c.nextRow (some old) hlt (Nat.le_refl _) hg
  | begin =>
    obtain ⟨m, nr, _ | t⟩ := c
    · exact ⟨wf_some hwf.fresh nofun nofun .nil, rfl, rfl⟩
    · exact ⟨hwf, rfl, rfl⟩
  | commit =>
    obtain ⟨m, nr, _ | t⟩ := c
    · exact ⟨hwf, rfl, rfl⟩
    · exact ⟨wf_none hwf.fresh, rfl, rfl⟩
  | rollback =>
    obtain ⟨m, nr, _ | t⟩ := c
    · exact ⟨hwf, rfl, rfl⟩
    · refine ⟨wf_none (undoAll_fresh m t.log nr hwf.fresh (hwf.logKeys _ rfl)), ?_⟩
      simp only [step, abs, sstep, get_undoAll, Option.map_some, Option.map_none, and_self]
  | savepoint n =>
    obtain ⟨m, nr, _ | ⟨log, sps⟩⟩ := c
    · exact ⟨hwf, rfl, rfl⟩
    have h2 := hwf.spLe _ rfl
    refine ⟨wf_some hwf.fresh (hwf.logKeys _ rfl) (fun p hp => ?_) ?_, ?_⟩
    · rcases List.mem_append.mp hp with hp | hp
      · exact h2 p hp
      · cases List.mem_singleton.mp hp; exact Nat.le_refl _
    · exact List.pairwise_append.mpr ⟨hwf.spMono _ rfl, List.pairwise_singleton _ _,
        fun a ha b hb => by cases List.mem_singleton.mp hb; exact h2 a ha⟩
    · simp only [step, abs, sstep, Option.map_some, absSps_savepoint, and_self]
  | rollbackTo n =>
    obtain ⟨m, nr, _ | ⟨log, sps⟩⟩ := c
    · exact ⟨hwf, rfl, rfl⟩
    have h1 := hwf.logKeys _ rfl
    cases hf : findSp sps n with
    | none =>
      simp only [step, abs, sstep, Option.map_some, findSnap_abs, hf, Option.map_none, and_self,
        and_true]
      exact hwf
    | some q =>
      obtain ⟨i, idx⟩ := q
      obtain ⟨hmem, hle⟩ := findSp_take sps n i idx hf (hwf.spMono _ rfl)
      have hidx : idx ≤ log.length := hwf.spLe _ rfl _ (List.mem_of_mem_take hmem)
      -- the BEGIN snapshot and the surviving savepoints denote the same maps over the shortened log
      have e1 : fundoAll (fundoAll (Undo.get m) (log.take (log.length - idx)))
          (log.drop (log.length - idx)) = fundoAll (Undo.get m) log := by
        rw [← fundoAll_append, List.take_append_drop]
      have e2 : absSps (fundoAll (Undo.get m) (log.take (log.length - idx)))
          (log.drop (log.length - idx)) (sps.take (i + 1))
          = (absSps (Undo.get m) log sps).take (i + 1) := by
        rw [absSps_drop, absSps, absSps, List.map_take]
        exact fun p hp => Nat.le_trans (Nat.add_le_add_left (hle p hp) _)
          (Nat.le_of_eq (Nat.sub_add_cancel hidx))
      simp only [step, hf, abs, sstep, Option.map_some, findSnap_abs, get_undoAll, snapAt, e1, e2,
        and_self, and_true]
      refine wf_some (undoAll_fresh m _ nr hwf.fresh fun e he => h1 e (List.mem_of_mem_take he))
        (fun e he => h1 e (List.mem_of_mem_drop he)) (fun p hp => ?_)
        ((hwf.spMono _ rfl).sublist (List.take_sublist _ _))
      rw [List.length_drop, Nat.sub_sub_self hidx]
      exact hle p hp
  | release n =>
    obtain ⟨m, nr, _ | ⟨log, sps⟩⟩ := c
    · exact ⟨hwf, rfl, rfl⟩
    cases hf : findSp sps n with
    | none =>
      simp only [step, abs, sstep, Option.map_some, findSnap_abs, hf, Option.map_none, and_self,
        and_true]
      exact hwf
    | some q =>
      obtain ⟨i, idx⟩ := q
      simp only [step, hf, abs, sstep, Option.map_some, findSnap_abs]
      simp only [absSps, map_eraseIdx, and_self, and_true]
      exact wf_some hwf.fresh (hwf.logKeys _ rfl)
        (fun p hp => hwf.spLe _ rfl p (List.mem_of_mem_eraseIdx hp))
        ((hwf.spMono _ rfl).sublist (List.eraseIdx_sublist _ _))

/-- **Undo logging refines snapshot restore (one statement).**  For every reachable undo-log
state and every statement, the abstraction of the engine's next state is the snapshot-stack
semantics applied to the abstraction, with the same Ok/Err outcome. -/
theorem undo_refines_snapshot (c : St α) (hwf : WF c) (op : Op α) :
    abs (step c op).1 = (sstep (abs c) op).1 ∧ (step c op).2 = (sstep (abs c) op).2 :=
  (step_sim c hwf op).2

theorem step_wf (c : St α) (hwf : WF c) (op : Op α) : WF (step c op).1 :=
  (step_sim c hwf op).1

end Spec

/-! ### the undo log (M-code) -/
section Headline
variable {α : Type}

theorem wf_init : WF ({} : St α) := wf_none fun _ _ => rfl

/-- **Undo logging refines snapshot restore**, any statement sequence -/
theorem run_refines (c : St α) (hwf : WF c) (ops : List (Op α)) :
    abs (run c ops) = srun (abs c) ops ∧ WF (run c ops) := by
  induction ops generalizing c with
  | nil => exact ⟨rfl, hwf⟩
  | cons op ops ih =>
    obtain ⟨h2, h1, _⟩ := step_sim c hwf op
    rw [run, srun, ← h1]
    exact ih _ h2

theorem reachable_wf (ops : List (Op α)) : WF (run ({} : St α) ops) :=
  (run_refines _ wf_init ops).2

def Op.ends : Op α → Bool
  | .commit => true
  | .rollback => true
  | _ => false

def Op.isDml : Op α → Bool
  | .insert .. => true
  | .modify .. => true
  | _ => false

/-- in the snapshot semantics the BEGIN snapshot is never touched before the transaction ends -/
theorem sstep_keeps_begin (s : Snap α) (b : FMap α) (sps : List (String × FMap α))
    (h : s.txn = some (b, sps)) (op : Op α) (hop : Op.ends op = false) :
    ∃ sps', (sstep s op).1.txn = some (b, sps') := by
  obtain ⟨m, nr, txn⟩ := s
  subst h
  cases op with
  | commit | rollback => cases hop
  | insert | begin | savepoint => exact ⟨_, rfl⟩
  | modify | rollbackTo | release => dsimp only [sstep]; split <;> exact ⟨_, rfl⟩

theorem srun_inv (P : Snap α → Prop) (ops : List (Op α))
    (hstep : ∀ s, ∀ op ∈ ops, P s → P (sstep s op).1) (s : Snap α) (h : P s) : P (srun s ops) := by
  induction ops generalizing s with
  | nil => exact h
  | cons op ops ih =>
    exact ih (fun s o ho => hstep s o (List.mem_cons_of_mem _ ho)) _
      (hstep s op (List.mem_cons_self ..) h)

theorem run_append (c : St α) (l1 l2 : List (Op α)) : run c (l1 ++ l2) = run (run c l1) l2 := by
  induction l1 generalizing c with
  | nil => rfl
  | cons x xs ih => simp only [List.cons_append, run, ih]

theorem srun_append (c : Snap α) (l1 l2 : List (Op α)) : srun c (l1 ++ l2) = srun (srun c l1) l2 := by
  induction l1 generalizing c with
  | nil => rfl
  | cons x xs ih => simp only [List.cons_append, srun, ih]

/-- snapshot semantics: `BEGIN; ops; ROLLBACK` restores the map when `ops` does not end the
transaction -/
theorem srun_begin_rollback (s : Snap α) (hno : s.txn = none) (ops : List (Op α))
    (hops : ∀ op ∈ ops, Op.ends op = false) :
    (srun s (.begin :: (ops ++ [.rollback]))).map = s.map := by
  have hb : (sstep s .begin).1.txn = some (s.map, []) := by simp only [sstep, hno]
  obtain ⟨sps', h2⟩ := srun_inv (fun s' => ∃ sps', s'.txn = some (s.map, sps')) ops
    (fun s' op hop ⟨sps', h'⟩ => sstep_keeps_begin s' _ sps' h' op (hops op hop)) _ ⟨[], hb⟩
  simp only [srun, srun_append]
  generalize srun (sstep s .begin).1 ops = s2 at h2
  simp only [sstep, h2]

/-- **Headline: ROLLBACK by reverse replay of the write-entry log restores the key → value map
exactly.**  From any reachable state without an open transaction: BEGIN, then any statements
(inserts, updates/deletes, savepoints, ROLLBACK TO, RELEASE, failing nested BEGINs -- anything
that does not end the transaction), then ROLLBACK: every key maps to exactly what it mapped to
at BEGIN (present keys to the same value, absent keys absent). -/
theorem undo_restores_map (c : St α) (hwf : WF c) (hno : c.txn = none) (ops : List (Op α))
    (hops : ∀ op ∈ ops, Op.ends op = false) :
    Undo.get (run c (.begin :: (ops ++ [.rollback]))).map = Undo.get c.map :=
  (congrArg Snap.map (run_refines c hwf _).1).trans
    (srun_begin_rollback (abs c) (by simp only [abs, hno, Option.map_none]) ops hops)

theorem sstep_dml_txn (s : Snap α) (op : Op α) (h : Op.isDml op = true) :
    (sstep s op).1.txn = s.txn := by
  cases op with
  | insert => rfl
  | modify => dsimp only [sstep]; split <;> rfl
  | _ => cases h

theorem findSnap_append_new (sps : List (String × FMap α)) (n : String) (f : FMap α)
    (h : findSnap sps n = none) : findSnap (sps ++ [(n, f)]) n = some (sps.length, f) := by
  induction sps with
  | nil => simp [findSnap]
  | cons p rest ih =>
    simp only [findSnap] at h
    split at h
    · cases h
    · next hm =>
      cases hf : findSnap rest n with
      | some q => simp [hf] at h
      | none => simp only [List.cons_append, findSnap, hm, if_false, ih hf, List.length_cons]

/-- snapshot semantics: `SAVEPOINT n; ops; ROLLBACK TO n` restores the map when `n` is a new name
and `ops` are DML statements -/
theorem srun_savepoint_rollbackTo (s : Snap α) (b : FMap α) (sps : List (String × FMap α))
    (ht : s.txn = some (b, sps)) (n : String) (hn : findSnap sps n = none) (ops : List (Op α))
    (hdml : ∀ op ∈ ops, Op.isDml op = true) :
    (srun s (.savepoint n :: (ops ++ [.rollbackTo n]))).map = s.map := by
  have h1 : (sstep s (.savepoint n)).1.txn = some (b, sps ++ [(n, s.map)]) := by
    simp only [sstep, ht]
  have h2 := srun_inv (fun s' => s'.txn = some (b, sps ++ [(n, s.map)])) ops
    (fun s' op hop h' => (sstep_dml_txn s' op (hdml op hop)).trans h') _ h1
  simp only [srun, srun_append]
  generalize srun (sstep s (.savepoint n)).1 ops = s2 at h2
  simp only [sstep, h2, findSnap_append_new _ n _ hn]

/-- **ROLLBACK TO SAVEPOINT by reverse replay of the log suffix restores the map exactly.**
Inside a transaction: SAVEPOINT n (a name not in use), any inserts / updates / deletes,
ROLLBACK TO n: every key maps to what it mapped to when the savepoint was created. -/
theorem rollback_to_restores_map (c : St α) (hwf : WF c) (t : Txn α) (ht : c.txn = some t)
    (n : String) (hn : findSp t.sps n = none) (ops : List (Op α))
    (hdml : ∀ op ∈ ops, Op.isDml op = true) :
    Undo.get (run c (.savepoint n :: (ops ++ [.rollbackTo n]))).map = Undo.get c.map := by
  have hab : (abs c).txn
      = some (fundoAll (Undo.get c.map) t.log, absSps (Undo.get c.map) t.log t.sps) := by
    simp only [abs, ht, Option.map_some]
  exact (congrArg Snap.map (run_refines c hwf _).1).trans
    (srun_savepoint_rollbackTo (abs c) _ _ hab n (by rw [findSnap_abs, hn]; rfl) ops hdml)

/-- non-vacuity: the hypotheses of the two theorems are satisfiable and the statements are not
about the empty history -/
example : Undo.get (run ({} : St Nat)
    [.insert 0 10, .begin, .insert 0 11, .modify (0, 1) (fun _ => 99), .savepoint "s",
     .modify (0, 2) (fun _ => 7), .rollbackTo "s", .rollback]).map (0, 1) = some 10 := by decide

end Headline

/-! ### the snapshot-stack specification `TurVerif.SqlDb` -/
section SpecLevel
open TurVerif.SqlDb TurVerif.Sql

def isDml : Stmt → Bool
  | .insert .. => true
  | .update .. => true
  | .delete .. => true
  | .truncate .. => true
  | _ => false

theorem put_txn (s : DbState) (t : TableSt) : (s.put t).txn = s.txn := rfl

theorem applyValid_txn (s s' : DbState) (r : Res) (h : s'.txn = s.txn) :
    (applyValid s s' r).1.txn = s.txn := by
  rcases applyValid_cases s s' r with ⟨he, _⟩ | ⟨e, he⟩ <;> rw [he]
  exact h

/-- a DML statement (successful or failing) never touches the snapshot stack -/
theorem step_dml_txn (s : DbState) (st : Stmt) (h : isDml st = true) :
    (SqlDb.step s st).1.txn = s.txn := by
  cases st with
  | insert | update =>
    dsimp only [SqlDb.step]
    split
    · rfl
    · split
      · rfl
      · exact applyValid_txn _ _ _ rfl
  | delete =>
    dsimp only [SqlDb.step]
    split
    · rfl
    · split
      · rfl
      · exact applyValid_txn _ _ _ (cascadeDelete_txn ..)
  | truncate =>
    dsimp only [SqlDb.step]
    split
    · rfl
    · exact applyValid_txn _ _ _ rfl
  | _ => cases h

theorem run_dml_txn (s : DbState) (sts : List Stmt) (h : ∀ st ∈ sts, isDml st = true) :
    (SqlDb.run s sts).1.txn = s.txn := by
  induction sts generalizing s with
  | nil => rfl
  | cons st sts ih =>
    rw [SqlDb.run_cons, ih _ (fun x hx => h x (List.mem_cons_of_mem _ hx)),
      step_dml_txn s st (h st (List.mem_cons_self ..))]

/-- ROLLBACK with only the BEGIN entry on the stack installs its snapshot -/
theorem step_rollback_single (s : DbState) (m : String) (snap : List TableSt)
    (h : s.txn = [(m, snap)]) : (SqlDb.step s .rollback).1.tables = snap := by
  simp [SqlDb.step, h]

/-- **`begin; stmts; rollback` leaves `tables` equal to the state at BEGIN** -/
theorem rollback_restores (s : DbState) (hno : s.txn = []) (sts : List Stmt)
    (h : ∀ st ∈ sts, isDml st = true) :
    (SqlDb.run s (.begin :: (sts ++ [.rollback]))).1.tables = s.tables := by
  have hb : (SqlDb.step s .begin).1 = { s with txn := [("", s.tables)] } := by
    simp [SqlDb.step, hno]
  simp only [SqlDb.run, SqlDb.run_append, hb]
  exact step_rollback_single _ "" s.tables (run_dml_txn _ sts h)

theorem step_savepoint (s : DbState) (hin : s.txn ≠ []) (n : String) :
    (SqlDb.step s (.savepoint n)).1 = { s with txn := (n, s.tables) :: s.txn } := by
  simp [SqlDb.step, hin]

/-- ROLLBACK TO the savepoint on top of the stack installs its snapshot -/
theorem step_rollbackTo_top (s : DbState) (n : String) (snap : List TableSt)
    (rest : List (String × List TableSt)) (hn : n ≠ "") (h : s.txn = (n, snap) :: rest) :
    (SqlDb.step s (.rollbackTo n)).1.tables = snap := by
  simp [SqlDb.step, h, hn]

/-- **`savepoint n; stmts; rollback to n` leaves `tables` equal to the state at SAVEPOINT** -/
theorem rollback_to_restores (s : DbState) (hin : s.txn ≠ []) (n : String) (hn : n ≠ "")
    (sts : List Stmt) (h : ∀ st ∈ sts, isDml st = true) :
    (SqlDb.run s (.savepoint n :: (sts ++ [.rollbackTo n]))).1.tables = s.tables := by
  simp only [SqlDb.run, SqlDb.run_append, step_savepoint s hin]
  exact step_rollbackTo_top _ n s.tables s.txn hn (run_dml_txn _ sts h)

/-- **nested savepoints with the same name: ROLLBACK TO n goes to the most recent one** -/
theorem rollback_to_most_recent (s : DbState) (hin : s.txn ≠ []) (n : String) (hn : n ≠ "")
    (sts1 sts2 : List Stmt) (h1 : ∀ st ∈ sts1, isDml st = true) (h2 : ∀ st ∈ sts2, isDml st = true) :
    (SqlDb.run s (.savepoint n :: (sts1 ++ (.savepoint n :: (sts2 ++ [.rollbackTo n]))))).1.tables
      = (SqlDb.run s (.savepoint n :: sts1)).1.tables := by
  rw [← List.cons_append, SqlDb.run_append]
  refine rollback_to_restores _ ?_ n hn sts2 h2
  rw [SqlDb.run_cons]
  show (SqlDb.run _ sts1).1.txn ≠ []
  rw [run_dml_txn _ sts1 h1, step_savepoint s hin]
  exact List.cons_ne_nil _ _

/-- **RELEASE keeps the state**: whatever the name, `tables` is unchanged -/
theorem release_keeps_state (s : DbState) (n : String) :
    (SqlDb.step s (.release n)).1.tables = s.tables := by
  dsimp only [SqlDb.step]
  split <;> rfl

theorem commit_keeps_state (s : DbState) : (SqlDb.step s .commit).1.tables = s.tables := by
  dsimp only [SqlDb.step]
  split <;> rfl

end SpecLevel

/-! ### where the engine's mechanism breaks the property: witnesses on the faithful model -/
section Counterexamples

/-- table with an INT primary key (column 0) and its `<col>_pkey` index -/
def engInt : Eng := { pkCol := some 0, uidx := [(0, [])] }
/-- table with a TEXT primary key -/
def engText : Eng := engInt

/-- one row (pk, x) committed, then `BEGIN; DELETE; ROLLBACK` -/
def delRollback (pk : Cell) : Eng :=
  let e1 := (engInt.insert [pk, .int 1]).1
  let a := (e1.txnOp .begin none false).1
  let b := (a.delete 0 pk).1
  (b.txnOp .rollback none true).1

/-- **header row_count drifts**: after an undone DELETE the row is back (one live row) but the
counter that `SELECT COUNT(*)` reads says 0 -/
theorem row_count_counterexample :
    (delRollback (.int 10)).live.length = 1 ∧ (delRollback (.int 10)).count = 0 := by decide

/-- **index entries restored with `pk as rowid`**: the row with primary key 10 lives at row key 1;
after the undone DELETE the primary-key index maps 10 to row id 10, so the lookup finds nothing -/
theorem index_rowid_counterexample :
    (delRollback (.int 10)).live.map (fun x => x.1) = [(0, 1)] ∧
    (delRollback (.int 10)).uidx.map (fun x => ixGet x.2 (.int 10)) = [some 10] := by decide

/-- **non-integer keys are not restored at all**: with a TEXT primary key the index entry is gone
after the undone DELETE, and a later INSERT of the same key is accepted (two live rows, same key) -/
theorem index_text_pk_counterexample :
    (delRollback (.text 7)).uidx.map (fun x => ixGet x.2 (.text 7)) = [none] ∧
    ((delRollback (.text 7)).insert [.text 7, .int 2]).2 = true ∧
    (((delRollback (.text 7)).insert [.text 7, .int 2]).1.live.map (fun x => cellAt x.2 0))
      = [.text 7, .text 7] := by decide

/-- the positive part: when the primary key is an integer equal to the row key and the entry was
removed (DELETE), the undo re-creates exactly the right entry -/
theorem index_restored_partial (p c : Nat) (ix : UIdx) (m : List (TKey × Rec)) (cnt : Nat)
    (key : TKey) (old : Rec) (pkv : Int) (v : Cell)
    (hpk : cellAt old p = .int pkv) (hrow : pkv.toNat = key.2)
    (hv : cellAt old c = v) (hnn : v ≠ .null) (habs : ixGet ix v = none) :
    (undoSide (some p) m (cnt, [(c, ix)]) { key := key, isInsert := false, undo := some old }).2
      = [(c, ix ++ [(v, key.2)])] := by
  simp only [undoSide, hpk, forUnique, List.map_cons, List.map_nil, hv]
  cases v with
  | null => exact absurd rfl hnn
  | int i => simp [ixIns, habs, hrow]
  | text t => simp [ixIns, habs, hrow]

/-- a record as `hpk` and `hnn` of `index_restored_partial` want it (the other hypotheses, about
the row key and the index, are not witnessed here) -/
example : ∃ old : Rec, cellAt old 0 = .int 3 ∧ cellAt old 0 ≠ .null := ⟨⟨false, false, [.int 3]⟩, by decide⟩

/-- **undo through page 1 after the root moved.**  Root has split: row keys ≥ 5 live outside
page 1.  A row inserted in a transaction gets key 7 (outside page 1); undoing the insert deletes
key 7 from page 1 only, so the row is still in the table. -/
theorem root_after_split_counterexample :
    let t0 : Tree Nat := { page1 := [((0, 1), 10)], rest := [((0, 5), 50)], sep := some 5 }
    let t1 := t0.put (0, 7) 70
    let t2 := t1.undoEntry { key := (0, 7), isInsert := true, undo := none }
    t2.get (0, 7) = some 70 ∧ t0.get (0, 7) = none := by decide

/-- same situation, undone UPDATE: the old value is inserted into page 1 while the new value
stays where the key really lives: the scan shows the key twice and the lookup the new value -/
theorem root_after_split_update_counterexample :
    let t0 : Tree Nat := { page1 := [((0, 1), 10)], rest := [((0, 5), 50)], sep := some 5 }
    let t1 := t0.put (0, 5) 51
    let t2 := t1.undoEntry { key := (0, 5), isInsert := false, undo := some 50 }
    t2.get (0, 5) = some 51 ∧ t2.scan.map (fun x => x.1) = [(0, 5), (0, 1), (0, 5)] := by decide

/-- as long as the root is page 1 the undo acts on the whole tree -/
theorem undo_root1_partial {α : Type} (t : Tree α) (h : t.sep = none) (e : Entry α) (k : TKey) :
    (t.undoEntry e).get k = fundo (fun k => t.get k) e k := by
  have hget : ∀ t' : Tree α, t'.sep = none → ∀ k, t'.get k = Undo.get t'.page1 k :=
    fun t' h' k => by simp [Tree.get, Tree.inRest, h']
  rw [hget _ (show (t.undoEntry e).sep = none from h), funext (hget t h)]
  exact congrFun (get_undoEntry t.page1 e) k

/-- **savepoint names: the engine rolls back to the FIRST savepoint of a name** (the spec,
`rollback_to_most_recent`, and SQL go to the most recent one): after
`BEGIN; I1; SAVEPOINT s; I2; SAVEPOINT s; I3; ROLLBACK TO s` only the first insert is left. -/
theorem savepoint_shadow_counterexample :
    (run ({} : St Nat) [.begin, .insert 0 1, .savepoint "s", .insert 0 2, .savepoint "s",
      .insert 0 3, .rollbackTo "s"]).map.map (fun x => x.2) = [1] ∧
    (run ({} : St Nat) [.begin, .insert 0 1, .savepoint "s", .insert 0 2, .savepoint "s"]).map.length
      = 2 := by decide

def resIsErr : SqlDb.Res → Bool
  | .err _ => true
  | _ => false

/-- **RELEASE of an outer savepoint**: the spec (and SQL) destroy the later savepoints as well, the
engine removes one entry and keeps them: `ROLLBACK TO b` after `RELEASE a` is an error in the
spec and succeeds in the engine model. -/
theorem release_outer_counterexample :
    (step (run ({} : St Nat) [.begin, .savepoint "a", .insert 0 1, .savepoint "b", .insert 0 2,
      .release "a"]) (.rollbackTo "b")).2 = true ∧
    ((SqlDb.run {} [.begin, .savepoint "a", .savepoint "b", .release "a", .rollbackTo "b"]).2.map
      resIsErr) = [false, false, false, false, true] := by decide

end Counterexamples

end TurVerif.C07
