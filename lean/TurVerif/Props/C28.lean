import TurVerif.Lemmas.Leaf
import TurVerif.Lemmas.OMap
import TurVerif.Props.C29
/-!
C28  The B-tree behaves as an ordered map.

Leaf level: the M-code leaf model (`TurVerif.Leaf`, src/btree/leaf.rs + the single-leaf parts of
tree.rs) refines the sorted-association-list specification `TurVerif.OMap` under the abstraction
`abs l = [(key, value) of each slot, in slot order]`.
Tree level: the M-spec tree (`TurVerif.BTree`) refines the same specification under every split
policy; cursors are walks over its leaf chain.
-/
namespace TurVerif.C28
open TurVerif.Leaf TurVerif.OMap
open TurVerif.Simd (cmpBytes SearchResult)
open TurVerif.C30 (cmp_eq_iff cmp_gt_iff cmp_lt_trans)

def kv (c : Cell) : Entry := (c.key, c.val)

theorem abs_eq (l : Leaf) : abs l = l.cells.map kv := rfl

theorem lt_kv {k : List Nat} {pre : List Cell} (h : ∀ x ∈ pre, cmpBytes x.key k = .lt) :
    ∀ e ∈ pre.map kv, cmpBytes e.1 k = .lt := by
  simpa [kv] using h

/-- the position `find_key` answers for an absent key cuts the page content there -/
theorem cut_absent {l : Leaf} {k : List Nat} {pos : Nat} (h : findKey l k = .notFound pos) :
    ∃ pre post, l.cells = pre ++ post ∧ pos = pre.length ∧
      (∀ e ∈ pre.map kv, cmpBytes e.1 k = .lt) ∧
      ∀ e ∈ (post.map kv).head?, cmpBytes e.1 k = .gt := by
  obtain ⟨pre, post, hc, hpre, hnf, _⟩ := findFrom_cut k l.cells 0
  obtain ⟨hn, hgt⟩ := hnf pos h
  refine ⟨pre, post, hc, by omega, lt_kv hpre, ?_⟩
  cases post with
  | nil => simp
  | cons c post => simpa [kv] using hgt

/-- the slot `find_key` answers for a present key, and the content around it -/
theorem cut_present {l : Leaf} {k : List Nat} {i : Nat} (h : findKey l k = .found i) :
    ∃ pre c post, l.cells = pre ++ c :: post ∧ i = pre.length ∧ l.cells[i]? = some c ∧ c.key = k ∧
      (∀ x ∈ pre, cmpBytes x.key k = .lt) ∧ abs l = pre.map kv ++ (k, c.val) :: post.map kv := by
  obtain ⟨pre, post, hc, hpre, _, hfd⟩ := findFrom_cut k l.cells 0
  obtain ⟨hn, c, post, rfl, hk⟩ := hfd i h
  have hi : i = pre.length := by omega
  refine ⟨pre, c, post, hc, hi, by simp [hc, hi], hk, hpre, ?_⟩
  rw [abs_eq, hc, List.map_append, List.map_cons, kv, hk]

theorem abs_place {l : Leaf} {k v : List Nat} {pre post : List Cell} (hc : l.cells = pre ++ post) :
    abs (place l k v pre.length) = pre.map kv ++ (k, v) :: post.map kv := by
  show (insertAt l.cells pre.length _).map kv = _
  rw [hc, insertAt_append, List.map_append]; rfl

theorem abs_insert {l : Leaf} {k v : List Nat} {pos : Nat} (h : findKey l k = .notFound pos) :
    lookup (abs l) k = none ∧ abs (place l k v pos) = insertNew (abs l) k v := by
  obtain ⟨pre, post, hc, rfl, hpre, hgt⟩ := cut_absent h
  rw [abs_place hc, abs_eq, hc, List.map_append]
  exact ⟨lookup_absent hpre hgt, (insertNew_absent v hpre hgt).symm⟩

theorem abs_compact (l : Leaf) (w : WF l) : abs (compact l) = abs l := by
  have hlive := w.live; have hfe := w.fe
  obtain ⟨_, _, _, _, _, h6⟩ := compact_facts l.cells 16384 (by omega)
  rw [compact_eq]
  show (compactCells l.cells 16384).1.map kv = l.cells.map kv
  have := congrArg (List.map (fun t : List Nat × List Nat × List Nat => (t.2.1, t.2.2))) h6
  simp only [List.map_map, Function.comp_def] at this
  unfold kv; exact this

/-- search: `find_key` answers exactly like the ordered map -/
theorem leaf_search_refines (l : Leaf) (k : List Nat) :
    match findKey l k with
    | .found i => ∃ c, l.cells[i]? = some c ∧ c.key = k ∧ lookup (abs l) k = some c.val
    | .notFound _ => lookup (abs l) k = none := by
  cases h : findKey l k with
  | found i =>
    obtain ⟨pre, c, post, _, _, hi, hk, hpre, habs⟩ := cut_present h
    exact ⟨c, hi, hk, habs ▸ lookup_present (lt_kv hpre)⟩
  | notFound p => exact (abs_insert (v := []) h).1

/-- insert_cell: succeeds only for an absent key and then is the ordered-map insertion;
`key already exists` is answered only for a present key -/
theorem leaf_insert_refines {l : Leaf} {k v : List Nat} :
    (∀ l', insertCell l k v = .ok l' → lookup (abs l) k = none ∧ abs l' = insertNew (abs l) k v) ∧
    (insertCell l k v = .error .keyExists → lookup (abs l) k ≠ none) := by
  constructor
  · intro l' h
    obtain ⟨_, pos, hf, rfl⟩ := insertCell_ok h
    exact abs_insert hf
  · intro h
    unfold insertCell at h
    split at h
    · cases h
    · split at h
      · rename_i i hf
        obtain ⟨pre, c, post, _, _, _, _, hpre, habs⟩ := cut_present hf
        rw [habs, lookup_present (lt_kv hpre)]; simp
      · cases h

/-- insert_cell_at with the position returned by find_key -/
theorem leaf_insertAt_refines {l l' : Leaf} {k v : List Nat} {pos : Nat}
    (hpos : findKey l k = .notFound pos) (h : insertCellAt l k v pos = .ok l') :
    abs l' = insertNew (abs l) k v := by
  obtain ⟨_, rfl⟩ := insertCellAt_ok h
  exact (abs_insert hpos).2

/-- insert_at_end under its contract (key greater than every key of the page) -/
theorem leaf_append_refines {l l' : Leaf} {k v : List Nat}
    (hmax : ∀ c ∈ l.cells, cmpBytes c.key k = .lt) (h : insertAtEnd l k v = .ok l') :
    abs l' = insertNew (abs l) k v := by
  obtain ⟨_, rfl⟩ := insertAtEnd_ok h
  exact (abs_insert (findKey_of_all_lt hmax)).2

/-- `find_key` and the scans of the ordered map stop at the same place on any slot sequence, so the
refinement of `BTree::delete` needs no invariant -/
theorem delete_refines (l : Leaf) (k : List Nat) :
    (delete l k).res = .ok (lookup (abs l) k).isSome ∧ abs (delete l k).leaf = erase (abs l) k := by
  unfold delete
  cases hf : findKey l k with
  | notFound p =>
    obtain ⟨pre, post, hc, _, hpre, hgt⟩ := cut_absent hf
    rw [abs_eq, hc, List.map_append, lookup_absent hpre hgt, erase_absent hpre hgt]
    exact ⟨rfl, rfl⟩
  | found i =>
    obtain ⟨pre, c, post, hc, rfl, hi, _, hpre, habs⟩ := cut_present hf
    simp only [deleteCell_eq hi]
    rw [habs, lookup_present (lt_kv hpre), erase_present (lt_kv hpre)]
    refine ⟨rfl, ?_⟩
    show (removeAt l.cells pre.length).map kv = _
    rw [hc, removeAt_append, List.map_append]

/-- `BTree::delete` on the reached leaf: returns whether the key was present and erases it -/
theorem leaf_delete_refines {l : Leaf} (w : WF l) (k : List Nat) :
    (delete l k).res = .ok (lookup (abs l) k).isSome ∧ abs (delete l k).leaf = erase (abs l) k :=
  delete_refines l k

/-- `BTree::update` on the reached leaf, for both guards of the growing branch: `Ok(true)` comes with
the ordered-map replacement as page content (all three branches: in place, shrink, delete+insert),
`Ok(false)` leaves the page untouched, an absent key yields `Ok(false)`, and with the guard of
fix_update_grow.patch the call never fails. -/
theorem leaf_updateG_refines (fixed : Bool) {l : Leaf} (w : WF l) (k v : List Nat) :
    ((updateG fixed l k v).res = .ok true →
        lookup (abs l) k ≠ none ∧ abs (updateG fixed l k v).leaf = replace (abs l) k v) ∧
    ((updateG fixed l k v).res = .ok false → (updateG fixed l k v).leaf = l) ∧
    (lookup (abs l) k = none → (updateG fixed l k v).res = .ok false) ∧
    (fixed = true → ∀ e, (updateG fixed l k v).res ≠ .error e) := by
  -- compute the outcome `o` once, then read the four clauses off it
  generalize ho : updateG fixed l k v = o
  unfold updateG at ho
  cases hf : findKey l k with
  | notFound p =>
    simp only [hf] at ho; subst ho
    exact ⟨nofun, fun _ => rfl, fun _ => rfl, fun _ _ => nofun⟩
  | found i =>
    obtain ⟨pre, c, post, hc, rfl, hi, hk, hpre, habs⟩ := cut_present hf
    have hpres : lookup (abs l) k ≠ none := by rw [habs, lookup_present (lt_kv hpre)]; simp
    have hmod : (modifyAt (fun c => { c with val := v }) l.cells pre.length).map kv =
        replace (abs l) k v := by
      rw [habs, replace_present v (lt_kv hpre), hc, modifyAt_append, List.map_append,
        List.map_cons, kv, hk]
    simp only [hf, hi] at ho
    by_cases h1 : v.length = c.val.length
    · simp only [updateInPlace, hi, h1, ne_eq, not_true_eq_false, if_false, if_true] at ho
      subst ho
      exact ⟨fun _ => ⟨hpres, hmod⟩, nofun, fun h => absurd h hpres,
        fun _ _ => nofun⟩
    rw [if_neg h1] at ho
    by_cases h2 : v.length < c.val.length
    · simp only [updateShrink, hi, h2, not_true_eq_false, if_false, if_true] at ho
      subst ho
      exact ⟨fun _ => ⟨hpres, hmod⟩, nofun, fun h => absurd h hpres,
        fun _ _ => nofun⟩
    rw [if_neg h2] at ho
    by_cases hg : growGuard fixed l c k v = true
    · simp only [if_pos hg, deleteCell_eq hi] at ho
      -- after `delete_cell` the slots are `pre ++ post`, and `find_key` answers the same position
      have hs := (List.pairwise_cons.mp (List.pairwise_append.mp (hc ▸ w.sorted)).2.1).1
      have hcut : (afterDelete l pre.length c).cells = pre ++ post := by
        show removeAt l.cells _ = _; rw [hc, removeAt_append]
      have hfind : findKey (afterDelete l pre.length c) k = .notFound pre.length := by
        show findFrom k (afterDelete l pre.length c).cells 0 = _
        rw [hcut, findFrom_absent 0 hpre, Nat.zero_add]
        exact fun x hx => (cmp_gt_iff _ _).mpr (hk ▸ hs x (List.mem_of_mem_head? hx))
      by_cases hsp : freeSpace (afterDelete l pre.length c) < cellSize k v + 8
      · have hins : insertCell (afterDelete l pre.length c) k v = .error .noSpace := by
          unfold insertCell; rw [if_pos hsp]
        simp only [hins] at ho
        subst ho
        refine ⟨nofun, nofun, fun h => absurd h hpres, ?_⟩
        -- the guard of the fix leaves room for the whole new cell and its slot
        intro hfx
        subst hfx
        have : cellSize k v ≤ freeSpace l := by simpa [growGuard] using hg
        have hfs := w.fs; have hfse := w.fse
        rw [hc, List.length_append, List.length_cons] at hfs
        unfold freeSpace afterDelete at *
        simp only at hsp
        omega
      · have hins : insertCell (afterDelete l pre.length c) k v =
            .ok (place (afterDelete l pre.length c) k v pre.length) := by
          unfold insertCell; rw [if_neg hsp, hfind]
        simp only [hins] at ho
        subst ho
        refine ⟨fun _ => ⟨hpres, ?_⟩, nofun, fun h => absurd h hpres,
          fun _ _ => nofun⟩
        rw [abs_place hcut, habs, replace_present v (lt_kv hpre)]
    · rw [if_neg hg] at ho
      subst ho
      exact ⟨nofun, fun _ => rfl, fun h => absurd h hpres, fun _ _ => nofun⟩

/-- `BTree::update` on the reached leaf (pinned tree), PARTIAL: whenever the call returns `Ok(true)`
the page content is the ordered-map replacement (all three branches: in place, shrink,
delete+insert); `Ok(false)` leaves the page untouched; an absent key always yields `Ok(false)`.
The full statement ("a call on a present key never loses it") is false, see
`update_grow_counterexample`. -/
theorem leaf_update_refines_partial {l : Leaf} (w : WF l) (k v : List Nat) :
    ((update l k v).res = .ok true →
        lookup (abs l) k ≠ none ∧ abs (update l k v).leaf = replace (abs l) k v) ∧
    ((update l k v).res = .ok false → (update l k v).leaf = l) ∧
    (lookup (abs l) k = none → (update l k v).res = .ok false) :=
  have h := leaf_updateG_refines false w k v
  ⟨h.1, h.2.1, h.2.2.1⟩

/-- `BTree::update` after fix_update_grow.patch, FULL: the call never fails and never loses the
key: it returns `Ok(true)` with the ordered-map replacement as content, or `Ok(false)` with the page
untouched (key absent, or the grown cell does not fit the page's free space). -/
theorem leaf_update_refines_fixed {l : Leaf} (w : WF l) (k v : List Nat) :
    ((updateFixed l k v).res = .ok true ∧ lookup (abs l) k ≠ none ∧
        abs (updateFixed l k v).leaf = replace (abs l) k v) ∨
    ((updateFixed l k v).res = .ok false ∧ (updateFixed l k v).leaf = l) := by
  have hp := leaf_updateG_refines true w k v
  cases hr : (updateFixed l k v).res with
  | error e => exact absurd hr (hp.2.2.2 rfl e)
  | ok b =>
    cases b with
    | true => exact Or.inl ⟨rfl, hp.1 hr⟩
    | false => exact Or.inr ⟨rfl, hp.2.1 hr⟩

/-- the witness: one 12-byte cell (key `01`, 10-byte value) on a page whose free space is 25
bytes (the rest of the cell area is occupied by deleted cells that `delete_cell` never reclaims) -/
def growLeaf : Leaf :=
  { cells := [{ pre := [1, 0, 0, 0], off := 16000, key := [1], val := List.replicate 10 0 }]
    freeStart := 32, freeEnd := 57, frag := 0, next := 0 }

theorem growLeaf_wf : WF growLeaf := by
  refine ⟨rfl, by decide, by decide, by decide, ?_, ?_, ?_, ?_, ?_⟩
  · intro c hc; simp [growLeaf] at hc; subst hc; decide
  · simp [growLeaf]
  · decide
  · intro c hc; simp [growLeaf] at hc; subst hc; rfl
  · simp [growLeaf]

/-- COUNTEREXAMPLE to "update of a present key keeps the key" (reproduced on the real code by the
harness, signature `btree:update-grow:key-lost`): growing the 10-byte value to 30 bytes passes the
guard `free_space (25) ≥ size_increase (20)`, `delete_cell` succeeds, `insert_cell` then needs
40 bytes but only 33 are free (the old cell's bytes are not reclaimed) and fails: the call
returns an error and the key is gone. -/
theorem update_grow_counterexample :
    WF growLeaf ∧ lookup (abs growLeaf) [1] = some (List.replicate 10 0) ∧
    (update growLeaf [1] (List.replicate 30 7)).res = .error .noSpace ∧
    lookup (abs (update growLeaf [1] (List.replicate 30 7)).leaf) [1] = none ∧
    -- with fix_update_grow.patch the same call answers Ok(false) and leaves the page alone
    (updateFixed growLeaf [1] (List.replicate 30 7)).res = .ok false :=
  ⟨growLeaf_wf, by decide, rfl, by decide, rfl⟩

/-! ### rightmost-leaf fastpath (`try_fastpath_insert` / `try_append_fastpath`) -/

theorem all_lt_of_last {cs : List Cell} {c : Cell} {k : List Nat} (hs : cs.Pairwise KLt)
    (hlast : cs.getLast? = some c) (hk : cmpBytes c.key k = .lt) : ∀ x ∈ cs, cmpBytes x.key k = .lt := by
  obtain ⟨ys, rfl⟩ := List.getLast?_eq_some_iff.mp hlast
  rw [List.pairwise_append] at hs
  intro x hx
  rcases List.mem_append.mp hx with hx | hx
  · exact cmp_lt_trans _ _ _ (hs.2.2 x hx c (by simp)) hk
  · simp only [List.mem_singleton] at hx; subst hx; exact hk

/-- fastpath, PARTIAL (pinned tree) / FULL (after fix_fastpath_empty_leaf.patch, where a non-empty
leaf is guaranteed): when the hinted leaf is NOT empty and the fastpath accepts, the key is greater
than every key of the leaf, the page stays well formed and the content is the ordered-map insertion. -/
theorem fastpath_refines_partial (fixed : Bool) {l l' : Leaf} {k v : List Nat} (w : WF l)
    (hne : l.cells ≠ []) (h : fastpathInsertG fixed l k v = some l') :
    (∀ c ∈ l.cells, cmpBytes c.key k = .lt) ∧ WF l' ∧ abs l' = insertNew (abs l) k v := by
  unfold fastpathInsertG at h
  split at h
  · simp at h
  · cases hlast : l.cells.getLast? with
    | none => exact absurd (List.getLast?_eq_none_iff.mp hlast) hne
    | some c =>
      simp only [hlast] at h
      split at h
      · simp at h
      · rename_i hbad
        have hgt : cmpBytes k c.key = .gt := by
          cases hc : cmpBytes k c.key <;> simp_all
        have hlt : cmpBytes c.key k = .lt := (cmp_gt_iff _ _).mp hgt
        have hall := all_lt_of_last w.sorted hlast hlt
        split at h
        · simp at h
        · cases hi : insertAtEnd l k v with
          | error e => simp [hi] at h
          | ok l2 =>
            simp only [hi, Option.some.injEq] at h
            subst h
            exact ⟨hall, C29.wf_insertAtEnd w hall hi, leaf_append_refines hall hi⟩

/-- after fix_fastpath_empty_leaf.patch the fastpath never accepts an empty leaf -/
theorem fastpath_fixed_nonempty {l l' : Leaf} {k v : List Nat}
    (h : fastpathInsertFixed l k v = some l') : l.cells ≠ [] := by
  intro he
  unfold fastpathInsertFixed fastpathInsertG at h
  simp [he] at h

theorem fastpath_refines_fixed {l l' : Leaf} {k v : List Nat} (w : WF l)
    (h : fastpathInsertFixed l k v = some l') :
    (∀ c ∈ l.cells, cmpBytes c.key k = .lt) ∧ WF l' ∧ abs l' = insertNew (abs l) k v :=
  fastpath_refines_partial true w (fastpath_fixed_nonempty h) h

/-! ## Tree level (M-spec model `TurVerif.BTree`), for every split policy -/
namespace Tree
open TurVerif.BTree
open TurVerif.C29.Tree (WF wf_tree_empty wf_tree_insert wf_tree_delete TOp run wf_tree_reachable)

/-- search = ordered-map lookup on the in-order content -/
theorem tree_search_refines (t : BTree.Tree) (k : Key) (w : WF t) : t.search k = lookup t.abs k :=
  search_level t.height t.root none none k w ⟨trivial, trivial⟩

/-- insert / insert_if_not_exists = ordered-map insertion of an absent key (a present key leaves the
content unchanged; the code answers `key already exists` / `Duplicate`), whatever splits happen -/
theorem tree_insert_refines (p : Policy) (t : BTree.Tree) (k : Key) (v : List Nat) (w : WF t) :
    (t.insert p k v).abs = insertNew t.abs k v :=
  (C29.Tree.tree_insert_spec p t k v w).2

/-- delete = ordered-map erase -/
theorem tree_delete_refines (t : BTree.Tree) (k : Key) (w : WF t) : (t.delete k).abs = erase t.abs k :=
  (delete_level k t.height t.root none none w ⟨trivial, trivial⟩).2

def runSpec : List Entry → List TOp → List Entry
  | m, [] => m
  | m, .insert k v :: ops => runSpec (insertNew m k v) ops
  | m, .delete k :: ops => runSpec (erase m k) ops

/-- C28 (tree level, histories): after any sequence of inserts and deletes, with any split policy, the
tree's in-order content is what the ordered map holds, and every lookup agrees -/
theorem tree_refines_omap (p : Policy) (ops : List TOp) :
    (run p BTree.Tree.empty ops).abs = runSpec [] ops ∧
    ∀ k, (run p BTree.Tree.empty ops).search k = lookup (runSpec [] ops) k := by
  suffices h : ∀ (t : BTree.Tree) (m : List Entry), C29.Tree.WF t → t.abs = m →
      (run p t ops).abs = runSpec m ops ∧ C29.Tree.WF (run p t ops) by
    obtain ⟨h1, h2⟩ := h BTree.Tree.empty [] wf_tree_empty rfl
    exact ⟨h1, fun k => by rw [tree_search_refines _ k h2, h1]⟩
  induction ops with
  | nil => intro t m w h; exact ⟨h, w⟩
  | cons op ops ih =>
    intro t m w h
    cases op with
    | insert k v => exact ih _ _ (wf_tree_insert p t k v w) (by rw [tree_insert_refines p t k v w, h])
    | delete k => exact ih _ _ (wf_tree_delete t k w).1 (by rw [tree_delete_refines t k w, h])

/-! ### cursors -/

/-- the leaf chain concatenated is the in-order content -/
theorem leaves_flatten_abs (t : BTree.Tree) : t.leaves.flatten = t.abs := leaves_flatten t.height t.root

theorem enumFwd_single (es : List Entry) : enumFwd [es] = es := by
  simp only [enumFwd]
  split
  · rename_i he; simp at he; exact he.symm
  · simp

/-- forward cursor, PARTIAL: if no leaf is empty (or the tree is a single leaf) the enumeration from
`cursor_first` is exactly the content in key order -/
theorem cursor_forward_partial (t : BTree.Tree)
    (h : t.height = 0 ∨ ∀ l ∈ t.leaves, l ≠ []) : enumFwd t.leaves = t.abs := by
  rcases h with h | h
  · obtain ⟨n, r⟩ := t
    simp only at h
    subst h
    exact enumFwd_single r
  · rw [enumFwd_nonempty h, leaves_flatten_abs]

/-- backward cursor, PARTIAL: same hypothesis, enumeration from `cursor_last` with `prev` is the
content in reverse key order -/
theorem cursor_backward_partial (t : BTree.Tree)
    (h : t.height = 0 ∨ ∀ l ∈ t.leaves, l ≠ []) : enumBwd t.leaves = t.abs.reverse := by
  rcases h with h | h
  · obtain ⟨n, r⟩ := t
    simp only at h
    subst h
    exact enumFwd_single (List.reverse (show List Entry from r))
  · unfold enumBwd
    have hne : ∀ l ∈ t.leaves.reverse.map List.reverse, l ≠ [] := by
      intro l hl
      obtain ⟨x, hx, rfl⟩ := List.mem_map.mp hl
      have := h x (List.mem_reverse.mp hx)
      simpa using this
    rw [enumFwd_nonempty hne, ← leaves_flatten_abs, List.reverse_flatten, List.map_reverse]

/-- seek, PARTIAL: if the descent reaches a leaf `l` that holds an entry with key ≥ k, all earlier
leaves hold only keys < k and no later leaf is empty, the enumeration from `cursor_seek k` is exactly
the entries with key ≥ k -/
theorem cursor_seek_partial (pre : List (List Entry)) (l : List Entry) (rest : List (List Entry)) (k : Key)
    (hpre : ∀ e ∈ pre.flatten, lt e.1 k) (hl : fromKey l k ≠ []) (hrest : ∀ x ∈ rest, x ≠ []) :
    enumSeek (pre ++ l :: rest) pre.length k = fromKey (pre ++ l :: rest).flatten k := by
  unfold enumSeek
  have : (pre ++ l :: rest).drop pre.length = l :: rest := by simp
  rw [this]
  dsimp only
  have hne : (fromKey l k).isEmpty = false := by
    cases h : fromKey l k with
    | nil => exact absurd h hl
    | cons _ _ => rfl
  rw [hne]
  simp only [Bool.false_eq_true, if_false]
  rw [enumFwd_nonempty hrest, List.flatten_append, List.flatten_cons,
    fromKey_append_right hpre, fromKey_append_left hl]

/-- a policy that splits every leaf holding two entries in the middle (any page that can hold only
one cell of the given size behaves like this) -/
def cexPolicy : Policy := ⟨fun es => if es.length = 2 then some 1 else none, fun _ => none⟩

/-- keys 1, 2, 3 inserted, then 2 deleted: leaves `[1] → [] → [3]` -/
def cexTree : BTree.Tree :=
  ((((BTree.Tree.empty.insert cexPolicy [1] [10]).insert cexPolicy [2] [20]).insert cexPolicy [3] [30]).delete [2])

/-- COUNTEREXAMPLE (empty leaf): a well-formed tree reached by three inserts and one delete whose
forward and backward cursor enumerations stop at the emptied middle leaf. Reproduced on the real
code (signatures `btree:cursor-forward:stops-at-empty-leaf`, `btree:cursor-backward:stops-at-empty-leaf`). -/
theorem cursor_empty_leaf_counterexample :
    WF cexTree ∧ cexTree.abs = [([1], [10]), ([3], [30])] ∧
    cexTree.leaves = [[([1], [10])], [], [([3], [30])]] ∧
    enumFwd cexTree.leaves = [([1], [10])] ∧ enumBwd cexTree.leaves = [([3], [30])] := by
  refine ⟨?_, by decide, by decide, by decide, by decide⟩
  exact (wf_tree_delete _ _ (wf_tree_insert _ _ _ _ (wf_tree_insert _ _ _ _
    (wf_tree_insert _ _ _ _ wf_tree_empty)))).1

/-- keys 1 and 3 inserted: leaves `[1] → [3]`, separator 3 -/
def cexTree2 : BTree.Tree := (BTree.Tree.empty.insert cexPolicy [1] [10]).insert cexPolicy [3] [30]

/-- COUNTEREXAMPLE (seek at the end of a leaf): probe 2 is routed to the first leaf (2 < separator 3),
lies above its last key, and the cursor is exhausted although entry 3 ≥ 2 exists. Reproduced on the
real code (signature `btree:seek:gap-at-leaf-end:exhausted`). -/
theorem cursor_seek_end_of_leaf_counterexample :
    WF cexTree2 ∧ cexTree2.leaves = [[([1], [10])], [([3], [30])]] ∧
    enumSeek cexTree2.leaves 0 [2] = [] ∧ fromKey cexTree2.abs [2] = [([3], [30])] := by
  refine ⟨?_, by decide, by decide, by decide⟩
  exact wf_tree_insert _ _ _ _ (wf_tree_insert _ _ _ _ wf_tree_empty)

/-- keys 1 and 3 inserted, 3 deleted: leaves `[1] → []`, separator 3, the rightmost leaf (the hint) is empty -/
def cexTree3 : BTree.Tree := cexTree2.delete [3]

/-- `cexTree3` after the pinned fastpath has put key 2 into the (empty) hinted rightmost leaf -/
def cexTree3' : BTree.Tree := ⟨1, (⟨[(([([1], [10])] : List Entry), [3])], ([([2], [20])] : List Entry)⟩ : Node (T 0))⟩

/-- COUNTEREXAMPLE (fastpath into an emptied rightmost leaf; pinned tree): the M-code fastpath
accepts ANY key on an empty leaf with `next_leaf = 0` (no comparison is made) — here key 2 although
the leaf sits to the right of separator 3. The resulting tree violates "separators bound their
subtrees" and `search 2` misses the entry that was just stored. Reproduced on the real code
(signatures `btree:hint-fastpath:empty-rightmost-leaf:*`). -/
theorem hint_fastpath_empty_leaf_counterexample :
    WF cexTree3 ∧ cexTree3.leaves = [[([1], [10])], []] ∧
    (∃ l', fastpathInsert Leaf.init [2] [20] = some l' ∧ abs l' = [([2], [20])]) ∧
    fastpathInsertFixed Leaf.init [2] [20] = none ∧
    ¬ WF cexTree3' ∧ cexTree3'.abs = [([1], [10]), ([2], [20])] ∧ cexTree3'.search [2] = none := by
  refine ⟨(wf_tree_delete _ _ (wf_tree_insert _ _ _ _ (wf_tree_insert _ _ _ _ wf_tree_empty))).1,
    by decide, ⟨_, rfl, by decide⟩, rfl, ?_, by decide, by decide⟩
  intro h
  have h2 : WFb 0 ([([2], [20])] : List Entry) (some [3]) none := h.2.2
  have := (h2.2 ([2], [20]) (by simp)).1
  exact this (by decide)

end Tree

end TurVerif.C28
