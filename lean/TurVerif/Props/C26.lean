import TurVerif.Lemmas.KeyEncOrder
import TurVerif.Lemmas.KeyEncDec
import TurVerif.Model.KeyEncJson
/-!
C26  Index key encoding preserves order, is invertible and prefix free; composite keys compare
column-wise.  Theorems about the M-code model `TurVerif.KeyEnc` (src/encoding/key.rs).

Proved domain `D`: `wf v` (every field inside its Rust type's range, text is UTF-8) and `vclean v`
(no vector dimension is NaN or −0.0).  `vclean` is needed because `encode_vector` mishandles those
dimensions in the real code (see the `_counterexample` theorems; known finding C26-F1); every
other kind is covered at full strength.  RANGE keys are outside the model (harness only); JSON keys
have a faithful model (`encJ` / `decodeJ`, Model/KeyEncJson.lean) and only counterexample theorems.
-/
namespace TurVerif.C26
open TurVerif.KeyEnc

theorem need_scalar {v : KVal} (h : need v = 1) : need v ≤ 2 * (enc v).length := by
  obtain ⟨t, e⟩ := enc_rank v
  rw [h, e, List.length_cons]; omega

mutual
theorem need_le : (v : KVal) → need v ≤ 2 * (enc v).length
  | .array es | .tuple es => by
    have := needE_le es; simp only [need, enc, List.length_cons]; omega
  | .composite t es => by
    have := needE_le es; simp only [need, enc, List.length_cons, List.length_append]; omega
  | .domain t v => by
    have := need_le v; simp only [need, enc, List.length_cons, List.length_append]; omega
  | .null | .bool _ | .int _ | .float _ | .text _ | .blob _ | .date _ | .time _ | .timestamp _
  | .timestamptz _ _ | .interval _ _ _ | .uuid _ | .inet _ _ _ | .macaddr _ | .enum _ _
  | .vector _ => need_scalar rfl
theorem needE_le : (es : KList) → needL es ≤ 2 * (encElems es).length + 1
  | .nil => by simp [needL, encElems]
  | .cons v vs => by
    have := need_le v; have := needR_le vs
    simp only [needL, encElems, List.length_append]; omega
theorem needR_le : (es : KList) → needL es ≤ 2 * (encRest es).length
  | .nil => by simp [needL, encRest]
  | .cons v vs => by
    have := need_le v; have := needR_le vs
    simp only [needL, encRest, List.length_cons, List.length_append]; omega
end

mutual
/-- values on which the documented canonicalisation does nothing: no float zero / NaN inside -/
def fplain : KVal → Bool
  | .float b => !isNan64 b && decide (b % 9223372036854775808 ≠ 0)
  | .array es => fplainL es
  | .tuple es => fplainL es
  | .composite _ fs => fplainL fs
  | .domain _ v => fplain v
  | _ => true
def fplainL : KList → Bool
  | .nil => true
  | .cons v vs => fplain v && fplainL vs
end

mutual
theorem canon_id : (v : KVal) → vclean v = true → fplain v = true → canon v = v
  | .float b, _, hf => by
    simp only [fplain, Bool.and_eq_true, Bool.not_eq_true', decide_eq_true_eq] at hf
    simp [canon, hf.1, hf.2]
  | .vector ds, hc, _ => by
    simp only [vclean, List.all_eq_true] at hc
    simp only [canon, KVal.vector.injEq]
    exact (List.map_congr_left fun d hd => vdec_venc d (hc d hd)).trans (List.map_id ds)
  | .array es, hc, hf | .tuple es, hc, hf | .composite _ es, hc, hf => by
    simp only [vclean, fplain] at hc hf; simp [canon, canonL_id es hc hf]
  | .domain t v, hc, hf => by
    simp only [vclean, fplain] at hc hf; simp [canon, canon_id v hc hf]
  | .null, _, _ | .bool _, _, _ | .int _, _, _ | .text _, _, _ | .blob _, _, _ | .date _, _, _
  | .time _, _, _ | .timestamp _, _, _ | .timestamptz _ _, _, _ | .interval _ _ _, _, _
  | .uuid _, _, _ | .inet _ _ _, _, _ | .macaddr _, _, _ | .enum _ _, _, _ => rfl
theorem canonL_id : (vs : KList) → vcleanL vs = true → fplainL vs = true → canonList vs = vs
  | .nil, _, _ => rfl
  | .cons v vs, hc, hf => by
    simp only [vcleanL, fplainL, Bool.and_eq_true] at hc hf
    simp [canonList, canon_id v hc.1 hf.1, canonL_id vs hc.2 hf.2]
end

/-- Order and prefix-freeness in one statement: whatever bytes follow the two
encodings, bytewise comparison is decided by the specification order of the two values, and only
if the values are equal in that order by the bytes that follow. -/
theorem enc_cmp_append_partial (a b : KVal) (ha : wf a = true) (hb : wf b = true)
    (ca : vclean a = true) (cb : vclean b = true) (r1 r2 : List Nat) :
    lexCmp (enc a ++ r1) (enc b ++ r2) = (cmpVal a b).then (lexCmp r1 r2) :=
  ok_all a b ha hb ca cb r1 r2

/-- memcmp of the keys IS the specification order of the values -/
theorem enc_cmp_partial (a b : KVal) (ha : wf a = true) (hb : wf b = true)
    (ca : vclean a = true) (cb : vclean b = true) :
    lexCmp (enc a) (enc b) = cmpVal a b := by
  simpa using enc_cmp_append_partial a b ha hb ca cb [] []

theorem enc_lt_iff_partial (a b : KVal) (ha : wf a = true) (hb : wf b = true)
    (ca : vclean a = true) (cb : vclean b = true) :
    cmpVal a b = .lt ↔ lexCmp (enc a) (enc b) = .lt := by
  rw [enc_cmp_partial a b ha hb ca cb]

/-- equal keys iff equal in the specification order (Int 0 / Float ±0, and all NaNs, are equal there) -/
theorem enc_eq_iff_partial (a b : KVal) (ha : wf a = true) (hb : wf b = true)
    (ca : vclean a = true) (cb : vclean b = true) :
    enc a = enc b ↔ cmpVal a b = .eq := by
  rw [← enc_cmp_partial a b ha hb ca cb, lexCmp_eq_iff]

theorem enc_prefix_free_partial (a b : KVal) (ha : wf a = true) (hb : wf b = true)
    (ca : vclean a = true) (cb : vclean b = true) (r : List Nat) (h : enc a ++ r = enc b) :
    r = [] ∧ enc a = enc b := by
  have h1 := enc_cmp_append_partial a b ha hb ca cb r []
  rw [h, List.append_nil, lexCmp_self] at h1
  have hr : lexCmp r [] = .eq := by
    cases hc : cmpVal a b <;> simp [hc] at h1
    exact h1.symm
  have : r = [] := lexCmp_eq_iff.mp hr
  subst this
  exact ⟨rfl, by simpa using h⟩

/-- COMPOSITE KEYS: the bytewise order of concatenated column encodings is the column-wise
lexicographic order of the column values (a key with fewer columns that agrees on them sorts first) -/
theorem tuple_order_partial : (as bs : KList) → wfList as = true → wfList bs = true →
    vcleanL as = true → vcleanL bs = true → lexCmp (encCols as) (encCols bs) = cmpList as bs
  | .nil, .nil, _, _, _, _ => by simp [encCols, cmpList]
  | .nil, .cons y ys, _, _, _, _ => by
    obtain ⟨t, e⟩ := enc_rank y
    simp [encCols, cmpList, e]
  | .cons x xs, .nil, _, _, _, _ => by
    obtain ⟨t, e⟩ := enc_rank x
    simp [encCols, cmpList, e]
  | .cons x xs, .cons y ys, ha, hb, ca, cb => by
    simp only [wfList, vcleanL, Bool.and_eq_true] at ha hb ca cb
    simp only [encCols, cmpList]
    rw [ok_all x y ha.1 hb.1 ca.1 cb.1, tuple_order_partial xs ys ha.2 hb.2 ca.2 cb.2]

/-- the escape code of text/blob bodies is order preserving and prefix free for ALL byte strings -/
theorem escape_monotone_prefix_free (a b r1 r2 : List Nat) :
    lexCmp (esc a ++ r1) (esc b ++ r2) = (lexCmp a b).then (lexCmp r1 r2) := esc_cmp a b r1 r2

/-- every key starts with the documented type-prefix byte of its value -/
theorem enc_starts_with_rank (v : KVal) : ∃ t, enc v = rank v :: t := enc_rank v

/-- ROUND TRIP (full strength, every modelled kind, any trailing bytes): decoding an encoded key
consumes exactly the key and returns `canon v` — the value itself except for the documented
collapses (Int 0 / Float ±0 -> Int 0, every NaN -> the NaN key) and the code's vector quirk
(`vdec ∘ venc` on each dimension, the identity unless the dimension is −0.0 or a sign-bit NaN). -/
theorem dec_enc (v : KVal) (h : wf v = true) (rest : List Nat) :
    decode (enc v ++ rest) = .ok (canon v) (enc v).length := by
  unfold decode
  have := need_le v
  exact rt_all v h _ (by simp only [List.length_append]; omega) rest

/-- ROUND TRIP returns the ORIGINAL value on the proved domain: no vector dimension NaN/−0.0
(`vclean`) and no float zero/NaN (`fplain`, the documented exception). -/
theorem dec_enc_exact_partial (v : KVal) (h : wf v = true) (hc : vclean v = true)
    (hf : fplain v = true) (rest : List Nat) :
    decode (enc v ++ rest) = .ok v (enc v).length := by
  rw [dec_enc v h rest, canon_id v hc hf]

/-- INJECTIVE modulo the canonicalisation (full strength): two well-formed values with the same
key decode to the same thing — distinct keys for distinct values except Int 0 / Float ±0, NaN
payloads, and the vector dimensions the code maps together. -/
theorem enc_injective_mod_canon (a b : KVal) (ha : wf a = true) (hb : wf b = true)
    (h : enc a = enc b) : canon a = canon b := by
  have h1 := dec_enc a ha []
  have h2 := dec_enc b hb []
  rw [h, h2] at h1
  injection h1 with h3 _
  exact h3.symm

/-- INJECTIVE on the proved domain: same key ⇒ same value -/
theorem enc_injective_partial (a b : KVal) (ha : wf a = true) (hb : wf b = true)
    (ca : vclean a = true) (cb : vclean b = true) (fa : fplain a = true) (fb : fplain b = true)
    (h : enc a = enc b) : a = b := by
  have := enc_injective_mod_canon a b ha hb h
  rwa [canon_id a ca fa, canon_id b cb fb] at this

/-- the real `encode_vector`/`decode_key` pair does not round trip −0.0: it comes back as NaN
(0xFFFFFFFF) -/
theorem vector_roundtrip_counterexample :
    decode (enc (.vector [2147483648])) = .ok (.vector [4294967295]) 9 := rfl

/-! #### the specification order is the natural order inside each type -/
theorem cmpVal_int (x y : Int) : cmpVal (.int x) (.int y) = cmpInt x y := rfl
theorem cmpVal_float (x y : Nat) : cmpVal (.float x) (.float y) = fcmp64 x y := rfl
theorem cmpVal_text (x y : List Nat) : cmpVal (.text x) (.text y) = lexCmp x y := rfl
theorem cmpVal_blob (x y : List Nat) : cmpVal (.blob x) (.blob y) = lexCmp x y := rfl
theorem cmpVal_date (x y : Int) : cmpVal (.date x) (.date y) = cmpInt x y := rfl
theorem cmpVal_timestamp (x y : Int) : cmpVal (.timestamp x) (.timestamp y) = cmpInt x y := rfl
/-- documented: integer zero and both float zeros are one point of the order (and share the key 14) -/
theorem zero_shared : cmpVal (.int 0) (.float 0) = .eq ∧ cmpVal (.int 0) (.float 9223372036854775808) = .eq ∧
    enc (.int 0) = [0x14] ∧ enc (.float 0) = [0x14] ∧ enc (.float 9223372036854775808) = [0x14] := by
  decide
/-- between Int and Float the order is the documented prefix rank, NOT numeric order:
Int 1 sorts after Float 2.5 (prefix 16 vs 15). -/
theorem int_float_by_rank_not_numeric :
    cmpVal (.int 1) (.float 4612811918334230528) = .gt ∧
    lexCmp (enc (.int 1)) (enc (.float 4612811918334230528)) = .gt := by
  decide

/-! #### the real `encode_vector` violates order on −0.0 (faithful model, concrete witnesses) -/
/-- f32 −0.0 (0x80000000) is encoded as 00000000 and sorts BEFORE −1.0 (0xBF800000) -/
theorem vector_order_counterexample :
    cmpVal (.vector [2147483648]) (.vector [3212836864]) = .gt ∧
    lexCmp (enc (.vector [2147483648])) (enc (.vector [3212836864])) = .lt := by
  decide

/-! #### JSON keys (`encode_json` / `decode_json`, faithful model `encJ` / `decodeJ`): the real code
violates round trip, order and prefix-freeness; concrete witnesses (known findings C26-F2, C26-F3) -/

/-- JSON number −0.0 is encoded as 53 00…00 and decodes to NaN (0xFFFFFFFFFFFFFFFF) -/
theorem json_negzero_roundtrip_counterexample :
    encJ (.num 9223372036854775808) = [0x53, 0, 0, 0, 0, 0, 0, 0, 0] ∧
    decodeJ (encJ (.num 9223372036854775808)) = .ok (.num 18446744073709551615) 9 := by
  constructor
  · decide
  · simp [decodeJ, decJ, encJ, jnumEnc, jnumDec, flipTop, isNan64, be, fromBe]

/-- JSON number −0.0 sorts before −1.0 (and before every negative number) -/
theorem json_negzero_order_counterexample :
    lexCmp (encJ (.num 9223372036854775808)) (encJ (.num 13830554455654793216)) = .lt := by
  decide

/-- an object whose first key is empty starts with the terminator byte: `{}` is a proper prefix of
`{"": null}` and the latter decodes as `{}` with 2 bytes consumed -/
theorem json_empty_key_counterexample :
    encJ (.obj (.cons [] .null .nil)) = encJ (.obj .nil) ++ [0, 0x50, 0] ∧
    decodeJ (encJ (.obj (.cons [] .null .nil))) = .ok (.obj .nil) 2 := by
  constructor
  · decide
  · simp [decodeJ, decJ, decJObj, encJ, encJObj, encJObjRest, esc]

/-- non-vacuity of the hypotheses -/
example : wf (.array (.cons (.vector [1065353216, 3212836864]) (.cons .null .nil))) = true ∧
    vclean (.array (.cons (.vector [1065353216, 3212836864]) (.cons .null .nil))) = true := by decide

end TurVerif.C26
