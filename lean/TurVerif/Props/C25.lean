import TurVerif.Model.Hnsw
import TurVerif.Lemmas.HnswHeap
import TurVerif.Lemmas.HnswCover
import TurVerif.Lemmas.HnswSound
/-!
C25  HNSW search returns live, correctly ranked neighbours.
Theorems about the M-code model `TurVerif.Hnsw` (src/hnsw/{mod,search,operations}.rs, slot status of
storage.rs, Rust's BinaryHeap).
-/
namespace TurVerif.C25
open TurVerif.Hnsw TurVerif.HnswHeap TurVerif.HnswCover

/-- reachability in the graph over readable nodes, along edges of any level -/
inductive Reach (s : Index) (a : NodeId) : NodeId → Prop where
  | refl : Reach s a a
  | step {n nb : NodeId} {l : Nat} : Reach s a n → nb ∈ s.getNeighbors n l → Reach s a nb

theorem descend_spec (s : Index) (dist : NodeId → D) (ep : NodeId) (lv : Nat) (p : NodeId × D)
    (hP : Reach s ep p.1) (hd : p.2 = dist p.1) :
    Reach s ep (descend s dist lv p).1 ∧ (descend s dist lv p).2 = dist (descend s dist lv p).1 := by
  induction lv generalizing p with
  | zero => exact ⟨hP, hd⟩
  | succ l ih =>
    have g := HnswSound.greedy_spec (Reach s ep) (fun n => s.getNeighbors n (l + 1)) dist
      (fun n nb hn hnb => Reach.step hn hnb) 1000 p.1 p.2 hP hd
    exact ih _ g.1 g.2

/-- the level-0 beam of `search` keeps the invariant, with reachability from the entry point -/
theorem searchCtx_inv (s : Index) (ef : Nat) (vd : Nat → D) (ep : NodeId) :
    HnswSound.CInv (Reach s ep) (s.searchDist vd) (s.searchCtx ef vd ep) :=
  have hdesc := descend_spec s (s.searchDist vd) ep s.maxLevel (ep, s.searchDist vd ep)
    Reach.refl rfl
  HnswSound.beamSearch_inv _ _ _ (fun _ _ hn hnb => Reach.step hn hnb) _ _ _ hdesc.1 hdesc.2

theorem search_length_le_k (s : Index) (k ef : Nat) (vd : Nat → D) :
    (s.search k ef vd).length ≤ k := by
  unfold Index.search
  split
  · exact Nat.zero_le k
  · rw [List.length_map]; exact List.length_take_le k _

/-- FULL: the hits of a search are (1) in non-decreasing order of the distance supplied for their
node, (2) pairwise distinct nodes, (3) each reachable from the entry point along graph edges,
(4) reported with exactly the supplied distance of their node (∞ for an unreadable node). -/
theorem search_sorted_distinct_reachable (s : Index) (k ef : Nat) (vd : Nat → D) :
    (s.search k ef vd).Pairwise (fun a b => D.le a.dist b.dist = true) ∧
    ((s.search k ef vd).map (·.node)).Nodup ∧
    ∀ h ∈ s.search k ef vd, h.dist = s.searchDist vd h.node ∧
      ∃ ep, s.entry = .at ep ∧ Reach s ep h.node := by
  unfold Index.search
  cases he : s.entry with
  | unset => simp
  | «at» ep =>
    simp only []
    have fs := HnswSound.finalize_spec _ _ _ (searchCtx_inv s ef vd ep) k
    refine ⟨?_, ?_, ?_⟩
    · rw [List.pairwise_map]; exact fs.1
    · rw [List.map_map]; exact fs.2.1
    · intro h hh
      obtain ⟨c, hc, rfl⟩ := List.mem_map.1 hh
      exact ⟨(fs.2.2 c hc).2, ep, rfl, (fs.2.2 c hc).1⟩

/-- a hit whose node is readable carries that node's row id and the distance supplied for that row;
a hit on an unreadable (deleted) node carries row id 0 and distance ∞ -/
theorem search_hit_row (s : Index) (k ef : Nat) (vd : Nat → D) :
    ∀ h ∈ s.search k ef vd,
      (∀ nd, s.readNode h.node = some nd → h.rowId = nd.rowId ∧ h.dist = vd nd.rowId) ∧
      (s.readNode h.node = none → h.rowId = 0 ∧ h.dist = .inf) := by
  intro h hh
  have hd := ((search_sorted_distinct_reachable s k ef vd).2.2 h hh).1
  unfold Index.search at hh
  cases he : s.entry with
  | unset => simp [he] at hh
  | «at» ep =>
    simp only [he] at hh
    obtain ⟨c, _, rfl⟩ := List.mem_map.1 hh
    simp only [Index.searchDist] at hd ⊢
    constructor
    · intro nd hnd; simp only [hnd] at hd ⊢; exact ⟨trivial, hd⟩
    · intro hn; simp only [hn] at hd ⊢; exact ⟨trivial, hd⟩

/-- PARTIAL (completeness when the search width covers the index).  Hypotheses: every level-0
neighbour id is an allocated node, the node at which the level-0 beam starts is allocated, and both
`ef` and `k` are at least the number of allocated nodes.  Then every node that is reachable from the
beam's start along level-0 edges (through readable nodes) is among the hits.  The full statement
"every LIVE vector is found" needs level-0 connectivity of the live nodes, which the code does not
maintain: a deleted node is a dead end (counterexample below), and once 32 neighbour lists are full
new nodes get no incoming edge (finding C25-neighbour-cap-unreachable, reproduced on the real code
with 34+ nodes). -/
theorem finds_all_when_ef_covers_partial (s : Index) (k ef : Nat) (vd : Nat → D) (ep : NodeId)
    (he : s.entry = .at ep)
    (hvalid : ∀ n nb, nb ∈ s.getNeighbors n 0 → nb < s.nodes.length)
    (hstart : (descend s (s.searchDist vd) s.maxLevel (ep, s.searchDist vd ep)).1 < s.nodes.length)
    (hef : s.nodes.length ≤ ef) (hk : s.nodes.length ≤ k) :
    ∀ n, ReachN (fun n => s.getNeighbors n 0)
        (descend s (s.searchDist vd) s.maxLevel (ep, s.searchDist vd ep)).1 n →
      n ∈ (s.search k ef vd).map (·.node) := by
  intro n hr
  unfold Index.search
  simp only [he, List.map_map]
  exact beamSearch_cover (fun n => s.getNeighbors n 0) (s.searchDist vd) s.nodes.length ef k hef hk
    hvalid ⟨_, _⟩ hstart s.beamFuel
    (Nat.lt_succ_self _) n hr

/-! ### concrete witnesses used by the counterexample theorems -/

/-- three rows at (0,0), (1,0), (0,1); distances in sixteenths from the new vector to the rows -/
def vdIns2 : Nat → D := fun r => if r = 1 then .fin 16 else .inf
def vdIns3 : Nat → D := fun r => if r = 1 then .fin 16 else if r = 2 then .fin 32 else .inf
/-- query at the origin after row 1 has been deleted from the table -/
def vdQ : Nat → D := fun r => if r = 2 then .fin 16 else if r = 3 then .fin 16 else .inf

def base : Index := { m := 2, m0 := 4, efC := 10 }
def s1 : Index := (base.insert 1 0 (fun _ => .inf)).1
def s2 : Index := (s1.insert 2 0 vdIns2).1
def s3 : Index := (s2.insert 3 0 vdIns3).1
/-- rows 1, 2, 3 inserted, then row 1 (the entry point) deleted -/
def s3d : Index := (s3.delete 1).1

/-- non-vacuity: in the reachable state `s3` (three live rows) a covering search returns all three -/
example : ((s3.search 3 3 (fun r => if r = 1 then .fin 0 else .fin 16)).map (·.rowId)).length = 3 ∧
    (s3.search 3 3 (fun r => if r = 1 then .fin 0 else .fin 16)).all (fun h => h.rowId != 0) = true := by
  decide

/-- COUNTEREXAMPLE (confirmed on the real code, finding C25-deleted-slot-unreadable): after the
entry point has been deleted, a search over an index that still holds two live rows returns exactly
one hit – the deleted node, with the bogus row id 0 and distance ∞ – and no live row. So "only live
row ids" and "at least one result when a live vector exists" are both false of the code. -/
theorem deleted_returned_counterexample :
    (s3.delete 1).2 = .ok ∧
    (s3d.search 3 10 vdQ).map (fun h => (h.node, h.rowId)) = [(0, 0)] ∧
    (s3d.nodes.map (fun n => (n.rowId, n.deleted))) = [(1, true), (2, false), (3, false)] := by
  decide

/-- COUNTEREXAMPLE (confirmed on the real code): once the entry point is deleted every further
insert fails (`read_node(entry_point)?`), after the node has been allocated and mapped. -/
theorem insert_after_entry_delete_counterexample :
    (s3d.insert 4 0 vdQ).2 = .errEntry ∧ (s3d.insert 4 0 vdQ).1.nodes.length = 4 := by
  decide

/-- a batch of unreadable nodes only leaves the queue -/
theorem vacuum_eq (s : Index) (maxNodes : Nat) (hq : ∀ d ∈ s.queue, s.readNode d = none) :
    s.vacuum maxNodes =
      ({ s with queue := s.queue.drop maxNodes }, min maxNodes s.queue.length) := by
  have e : (s.queue.take maxNodes).foldl vacuumOne { s with queue := s.queue.drop maxNodes } =
      { s with queue := s.queue.drop maxNodes } :=
    List.foldlRecOn (motive := (· = _)) _ _ rfl fun t ht d hd => by
      have : t.readNode d = none := ht ▸ hq d (List.mem_of_mem_take hd)
      rw [vacuumOne, this]; exact ht
  unfold Index.vacuum
  simp only []
  rw [e, List.length_take]

/-- `vacuum_batch` never unlinks anything: a queued node is a deleted node, `read_node` rejects it
and the loop `continue`s. Graph and entry point are unchanged whatever the batch size. -/
theorem vacuum_noop (s : Index) (maxNodes : Nat)
    (hq : ∀ d ∈ s.queue, s.readNode d = none) :
    (s.vacuum maxNodes).1.nodes = s.nodes ∧ (s.vacuum maxNodes).1.entry = s.entry ∧
    (s.vacuum maxNodes).2 = min maxNodes s.queue.length := by
  rw [vacuum_eq s maxNodes hq]
  exact ⟨rfl, rfl, rfl⟩

/-- the node enqueued by a successful delete is unreadable from then on (hypothesis of
`vacuum_noop`) -/
theorem delete_enqueues_unreadable (s : Index) (row : Nat) (h : (s.delete row).2 = .ok) :
    ∃ nid, (s.delete row).1.queue = s.queue ++ [nid] ∧ (s.delete row).1.readNode nid = none := by
  unfold Index.delete at h ⊢
  cases hf : s.rowMap.find? (fun p => p.1 == row) with
  | none => simp [hf] at h
  | some p =>
    obtain ⟨r, nid⟩ := p
    simp only [hf] at h ⊢
    cases hn : s.nodes[nid]? with
    | none => simp [hn] at h
    | some nd =>
      simp only [hn] at h ⊢
      by_cases hd : nd.deleted = true
      · simp [hd] at h
      · have hlt : nid < s.nodes.length := (List.getElem?_eq_some_iff.1 hn).1
        refine ⟨nid, ?_⟩
        simp [hd, Index.readNode, hlt]

/-- non-vacuity of `vacuum_noop`: the hypothesis holds in the reachable state `s3d` -/
example : ∀ d ∈ s3d.queue, s3d.readNode d = none := by decide

end TurVerif.C25
