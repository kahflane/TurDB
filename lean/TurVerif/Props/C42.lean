import TurVerif.Model.Lru
import TurVerif.Model.SqlMaint
import TurVerif.Lemmas.SqlMaint
import TurVerif.Lemmas.Lru
/-!
# C42 — configuration choices do not change query results

Two parts.

* The *specification* part: on the relational reference model (`TurVerif.SqlDb`) a configuration
  statement (PRAGMA wal / synchronous / wal_autoflush / wal_checkpoint_threshold) and the number of
  tables in the catalog that a statement does not mention are, by definition, not inputs of `step`;
  `config_identity` states the resulting law for whole histories (`TurVerif.SqlMaint`).
* The *mechanism* part that "more tables and indexes than the open-file limit" exercises: the
  open-file LRU of `src/storage/file_manager.rs`, M-code in `Model/Lru.lean`.  An LRU of any
  capacity over reloadable handles is observationally a total map (`lru_get_eq_map`), never holds
  more than `capacity` handles (`len_le_cap`), keeps its representation invariant (`inv_runOps`),
  evicts exactly the least recently used key and only when full (`insert_evicts_lru`,
  `insert_no_evict_when_room`), and a fetched key becomes the most recently used (`fetch_mru`).
  Caveat (assumption, not proved): two live mappings of one file (the evicted handle may still be
  held by a caller while the file is re-opened) are coherent – `MAP_SHARED` semantics.
-/
namespace TurVerif.C42
open TurVerif.Lru

variable {V : Type}

/-- every cached handle is the handle of its key -/
def Sound (load : Nat → V) (c : Lru V) : Prop := ∀ k v, mapGet c.map k = some v → v = load k

theorem sound_new (load : Nat → V) (cap : Nat) : Sound load (new cap : Lru V) := nofun

theorem sound_touch {load : Nat → V} {c : Lru V} (h : Sound load c) (k : Nat) :
    Sound load (touch c k) := by
  rw [Sound, touch_map]; exact h

theorem sound_remove {load : Nat → V} {c : Lru V} (h : Sound load c) (k : Nat) :
    Sound load (remove c k).1 :=
  fun k' v hv => h k' v (mapGet_remove_some hv)

theorem sound_insert {load : Nat → V} {c : Lru V} (h : Sound load c) (k : Nat) :
    Sound load (insert c k (load k)).1 := by
  obtain ⟨m, e, hm⟩ := insert_map c k (load k)
  intro k' v hv
  rw [e, mapGet_insert] at hv
  split at hv
  · next hk => cases hv; rw [hk]
  · exact h k' v (hm k' v hv)

/-- one `FileManager` fetch: returns the file's handle (the `unwrap` cannot fail), keeps the cache
sound -/
theorem fetch_spec {load : Nat → V} {c : Lru V} (h : Sound load c) (k : Nat) :
    (fetch load c k).2.1 = some (load k) ∧ Sound load (fetch load c k).1 := by
  cases hg : mapGet c.map k with
  | some v =>
    rw [fetch_hit hg]; dsimp only
    exact ⟨congrArg some (h k v hg), sound_touch (sound_touch h k) k⟩
  | none =>
    rw [fetch_miss hg]; dsimp only
    exact ⟨rfl, sound_touch (sound_insert h k) k⟩

theorem runOps_eq_map {load : Nat → V} (ops : List Op) : ∀ (c : Lru V), Sound load c →
    (runOps load c ops).2 = runMap load ops := by
  intro c hc
  fun_induction runOps load c ops with
  | case1 c => rfl
  | case2 c k rest c1 v x hf c2 vs hrun ih =>
    have hs := fetch_spec hc k
    rw [hf] at hs
    have := ih hs.2
    rw [hrun] at this
    exact congr (congrArg _ hs.1) this
  | case3 c k rest ih => exact ih (sound_remove hc k)

/-- `order` stays within the capacity -/
structure Bounded (cap : Nat) (c : Lru V) : Prop where
  cap_eq : c.cap = cap
  le : c.order.length ≤ cap

theorem bounded_run {load : Nat → V} {cap : Nat} (hcap : 1 ≤ cap) {c : Lru V} (h : Bounded cap c)
    (ops : List Op) : Bounded cap (runOps load c ops).1 := by
  refine runOps_preserves (P := Bounded cap) (fun c k h => ?_) (fun c k h => ?_)
    (fun c k h => ⟨h.cap_eq, Nat.le_trans List.length_erase_le h.le⟩) ops c h
  · exact ⟨(touch_cap c k).trans h.cap_eq, (touch_order_perm c k).length_eq ▸ h.le⟩
  · obtain ⟨rfl, hl⟩ := h
    exact ⟨insert_cap c k _, insert_order_le hcap hl k _⟩

/-- **An LRU over reloadable values is observationally a total map.**  For every capacity (even
0), every `load`, every sequence of fetches and drops, starting from the empty cache (or any sound
one, `runOps_eq_map`): each fetch returns exactly the handle a plain map `k ↦ load k` would
return – in particular the `.unwrap()` in `FileManager::table_data` never fails and eviction is
invisible to callers. -/
theorem lru_get_eq_map (load : Nat → V) (cap : Nat) (ops : List Op) :
    (runOps load (new cap) ops).2 = runMap load ops :=
  runOps_eq_map ops (new cap) (sound_new load cap)

/-- the representation invariant of `LruFileCache` (`order` = the keys of `map`, each once) holds
after every sequence of operations -/
theorem inv_runOps (load : Nat → V) (cap : Nat) (hcap : 1 ≤ cap) (ops : List Op) :
    Inv (runOps load (new cap) ops).1 :=
  inv_run (inv_new cap) ops  -- for every capacity: `hcap` is not used

/-- **never more than `capacity` open files** (capacity ≥ 1; the code clamps to ≥ 8) -/
theorem len_le_cap (load : Nat → V) (cap : Nat) (hcap : 1 ≤ cap) (ops : List Op) :
    len (runOps load (new cap) ops).1 ≤ cap := by
  rw [(inv_runOps load cap hcap ops).len_eq]
  exact (bounded_run hcap ⟨rfl, Nat.zero_le _⟩ ops).le

/-- with capacity 0 the bound fails: one insert leaves one entry (why the code clamps) -/
theorem len_le_cap_zero_counterexample : len (insert (new 0 : Lru Nat) 5 50).1 = 1 := by decide

/-- a full cache evicts exactly its least recently used key -/
theorem insert_evicts_lru {c : Lru V} (h : Inv c) (k : Nat) (v : V) (hk : mapHas c.map k = false)
    (a : Nat) (rest : List Nat) (ho : c.order = a :: rest) (hfull : c.order.length ≥ c.cap) :
    ∃ w, (insert c k v).2 = some (a, w) ∧ mapGet c.map a = some w := by
  obtain ⟨w, hw, e⟩ := popLru_of_inv h ho
  exact ⟨w, by rw [insert_of_full hk hfull, e], hw⟩

/-- a cache with room evicts nothing -/
theorem insert_no_evict_when_room (c : Lru V) (k : Nat) (v : V) (hroom : c.order.length < c.cap) :
    (insert c k v).2 = none := by
  cases hh : mapHas c.map k with
  | true => rw [insert_of_has hh]
  | false => rw [insert_of_room hh hroom]

/-- a fetched key is the most recently used one afterwards -/
theorem fetch_mru {load : Nat → V} {c : Lru V} (h : Inv c) (k : Nat) :
    (fetch load c k).1.order.getLast? = some k := by
  cases hg : mapGet c.map k with
  | some v =>
    rw [fetch_hit hg]; dsimp only
    have hk : k ∈ c.order := (h.has_iff k).mp (congrArg Option.isSome hg)
    exact touch_getLast? ((touch_order_perm c k).mem_iff.mpr hk)
  | none =>
    rw [fetch_miss hg]; dsimp only
    exact touch_getLast? (((inv_insert h k _).has_iff k).mp (congrArg Option.isSome (insert_get ..)))

/-- non-vacuity / worked example: capacity 2, keys 1 2 3 1: key 1 is evicted by 3 and transparently
re-opened -/
example : (runOps (fun k => k * 10) (new 2 : Lru Nat) [.fetch 1, .fetch 2, .fetch 3, .fetch 1]).2
    = [some 10, some 20, some 30, some 10] := by decide
example : (runOps (fun k => k * 10) (new 2 : Lru Nat) [.fetch 1, .fetch 2, .fetch 3, .fetch 1]).1.order
    = [3, 1] := by decide

/-! ## specification part: configuration is not an input of the reference semantics -/

open TurVerif.SqlMaint in
/-- On the relational reference model, a history interleaved with configuration statements
(PRAGMA wal / synchronous / wal_autoflush / wal_checkpoint_threshold) yields exactly the statement
results and the final state of the history without them. -/
theorem config_identity (s : TurVerif.SqlDb.DbState) (items : List Item)
    (h : ∀ it ∈ items, it.isReopen = false) :
    runItems s items = TurVerif.SqlDb.run s (stmtsOf items) :=
  runItems_eq_run s items h

end TurVerif.C42
