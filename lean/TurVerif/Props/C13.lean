import TurVerif.Model.Lex
/-!
C13  Bound parameters behave like literals; bound text is never SQL.
Theorems about the M-code model `TurVerif.Lex` (src/sql/lexer.rs, the `Token::String` arm of
src/sql/parser.rs, `value_to_sql_literal` / `substitute_parameters` of src/database/prepared.rs,
integer-literal evaluation of src/database/convert.rs).
-/
namespace TurVerif.C13
open TurVerif.Lex

/-- a byte that is not whitespace, `-` or `/` starts a token: `trivia` stops there -/
theorem trivia_stop (cs : List Nat) (c : Nat) (t : List Nat) (hw : isWs c = false)
    (h1 : c ≠ 45) (h2 : c ≠ 47) : trivia .normal cs (c :: t) = .inl (c :: t) := by
  cases t with
  | nil => simp [trivia, hw]
  | cons c2 t2 => simp [trivia, hw, h1, h2]

theorem scanDelim_escape (s rest : List Nat) (h : rest.head? ≠ some 39) :
    scanDelim 39 (escape s ++ 39 :: rest) = some (escape s, rest) := by
  induction s with
  | nil =>
    cases rest with
    | nil => simp [escape, scanDelim]
    | cons r rs =>
      have : r ≠ 39 := by intro e; apply h; simp [e]
      simp [escape, scanDelim, this]
  | cons c t ih =>
    by_cases hc : c = 39
    · subst hc
      simp [escape, scanDelim, ih]
    · have e : escape (c :: t) ++ 39 :: rest = c :: (escape t ++ 39 :: rest) := by simp [escape, hc]
      rw [e, scanDelim.eq_def]
      simp [hc, ih, escape]

theorem scanTok_quote (s rest : List Nat) (h : rest.head? ≠ some 39) :
    scanTok 39 (escape s ++ 39 :: rest) = (Tok.str (escape s), rest) := by
  -- the quote is the third test of `scanTok`; `simp [scanTok]` would normalise all of it
  unfold scanTok
  rw [if_neg (by decide), if_neg (by decide), if_pos rfl, scanDelim_escape s rest h]

theorem consumed_append (a b : List Nat) : consumed (a ++ b) b = a := by
  simp [consumed]

/-- HEADLINE (token level): the literal printed for a bound text `s` — for EVERY byte string `s`,
whatever quotes, comment markers, semicolons, backslashes or NULs it contains — followed by any
input `rest` that does not start with a quote, is scanned as exactly one string token whose raw
slice is `escape s`, and scanning resumes exactly at `rest`. -/
theorem scan_quote (s rest : List Nat) (h : rest.head? ≠ some 39) :
    nextToken (quote s ++ rest) = ⟨quote s ++ rest, Tok.str (escape s), rest⟩ := by
  have hw : isWs 39 = false := by decide
  have e : quote s ++ rest = 39 :: (escape s ++ 39 :: rest) := by simp [quote]
  rw [e]
  simp only [nextToken, trivia_stop [] 39 _ hw (by decide) (by decide), scanTok_quote s rest h]

/-- HEADLINE (token stream): `lex (quote s ++ rest) = String(escape s) :: lex rest`. -/
theorem lex_quote (s rest : List Nat) (h : rest.head? ≠ some 39) :
    lex (quote s ++ rest) = Tok.str (escape s) :: lex rest := by
  rw [lex]
  have hlen : rest.length < (quote s ++ rest).length := by simp [quote]; omega
  simp only [scan_quote s rest h, hlen, dite_true]
  simp

/-- the parser's un-escaping (`replace("''", "'")`) of the raw slice gives back the bound text:
together with `scan_quote`, the string literal denotes exactly `s`. -/
theorem unescape_escape (s : List Nat) : unescape (escape s) = s := by
  induction s with
  | nil => simp [escape, unescape]
  | cons c t ih =>
    by_cases hc : c = 39
    · subst hc; simp [escape, unescape, ih]
    · have e : escape (c :: t) = c :: escape t := by simp [escape, hc]
      rw [e, unescape.eq_def]
      simp [hc, ih]

/-- no backslash escapes: a backslash before the closing quote does not keep the string open -/
theorem backslash_is_ordinary (rest : List Nat) (h : rest.head? ≠ some 39) :
    nextToken (quote [92] ++ rest) = ⟨quote [92] ++ rest, Tok.str [92], rest⟩ := by
  have := scan_quote [92] rest h
  simpa [escape] using this

/-- placeholders inside a string literal are not substituted: `substitute_parameters` copies a
string literal verbatim, whatever it contains (`?`, `$1`, `:name`), and continues after it with
the same parameter index. -/
theorem subst_string_literal_opaque (ps : List PVal) (idx : Nat) (s rest : List Nat)
    (h : rest.head? ≠ some 39) :
    substFrom ps idx (quote s ++ rest) = (substFrom ps idx rest).map (fun out => quote s ++ out) := by
  rw [substFrom]
  have hlen : rest.length < (quote s ++ rest).length := by simp [quote]; omega
  simp only [scan_quote s rest h, hlen, dite_true, consumed_append]
  simp

/-- a `--` comment is skipped up to and including the newline: the token that follows (and the
input after it) is the one that follows the comment, so nothing inside the comment is a
parameter token. -/
theorem line_comment_skipped (c rest : List Nat) (hc : ∀ b ∈ c, b ≠ 10) :
    (nextToken (45 :: 45 :: (c ++ 10 :: rest))).tok = (nextToken rest).tok ∧
    (nextToken (45 :: 45 :: (c ++ 10 :: rest))).rest = (nextToken rest).rest ∧
    (nextToken (45 :: 45 :: (c ++ 10 :: rest))).start = (nextToken rest).start := by
  have hl : ∀ (c : List Nat), (∀ b ∈ c, b ≠ 10) →
      trivia .line [] (c ++ 10 :: rest) = trivia .normal [] rest := by
    intro c
    induction c with
    | nil => intro _; simp [trivia]
    | cons a t ih =>
      intro h
      have ha : a ≠ 10 := h a (by simp)
      simp only [List.cons_append, trivia, ha, if_false]
      exact ih (fun b hb => h b (by simp [hb]))
  have h0 : trivia .normal [] (45 :: 45 :: (c ++ 10 :: rest)) = trivia .normal [] rest := by
    have hw : isWs 45 = false := by decide
    simp only [trivia, hw, Bool.false_eq_true, if_false, and_self, if_true]
    exact hl c hc
  simp only [nextToken, h0, and_self]

/-- a `/* */` comment without `*` or `/` inside is skipped likewise -/
theorem block_comment_skipped (c rest : List Nat) (hc : ∀ b ∈ c, b ≠ 42 ∧ b ≠ 47) :
    (nextToken (47 :: 42 :: (c ++ 42 :: 47 :: rest))).tok = (nextToken rest).tok ∧
    (nextToken (47 :: 42 :: (c ++ 42 :: 47 :: rest))).rest = (nextToken rest).rest ∧
    (nextToken (47 :: 42 :: (c ++ 42 :: 47 :: rest))).start = (nextToken rest).start := by
  have hl : ∀ (c : List Nat) (cs : List Nat), (∀ b ∈ c, b ≠ 42 ∧ b ≠ 47) →
      trivia (.block 1) cs (c ++ 42 :: 47 :: rest) = trivia .normal [] rest := by
    intro c
    induction c with
    | nil => intro cs _; simp [trivia]
    | cons a t ih =>
      intro cs h
      have ha := h a (by simp)
      have := ih cs (fun b hb => h b (by simp [hb]))
      cases t with
      | nil => simp [trivia, ha]
      | cons x xs => simpa [trivia, ha] using this
  have hw : isWs 47 = false := by decide
  have h0 : trivia .normal [] (47 :: 42 :: (c ++ 42 :: 47 :: rest)) = trivia .normal [] rest := by
    simp only [trivia, hw, Bool.false_eq_true, if_false, and_self, if_true]
    have : (47 = 45 ∧ 42 = 45) = False := by simp
    simp only [this, if_false]
    exact hl c _ hc
  simp only [nextToken, h0, and_self]

/-! ### substitution of an anonymous placeholder -/

theorem nextToken_question (rest : List Nat) (h1 : rest.head? ≠ some 124) (h2 : rest.head? ≠ some 38) :
    nextToken (63 :: rest) = ⟨63 :: rest, Tok.param .anon, rest⟩ := by
  have hw : isWs 63 = false := by decide
  have hi : isIdStart 63 = false := by decide
  have hd : isDigit 63 = false := by decide
  simp only [nextToken, trivia_stop [] 63 rest hw (by decide) (by decide)]
  cases rest with
  | nil => unfold scanTok; simp [hi, hd]
  | cons d t =>
    have d1 : d ≠ 124 := by intro e; apply h1; simp [e]
    have d2 : d ≠ 38 := by intro e; apply h2; simp [e]
    unfold scanTok; simp [hi, hd, d1, d2]

/-- `?` is replaced by the literal of the next unused parameter and nothing else changes -/
theorem subst_question (ps : List PVal) (idx : Nat) (rest : List Nat) (v : PVal)
    (h1 : rest.head? ≠ some 124) (h2 : rest.head? ≠ some 38) (hv : ps[idx]? = some v) :
    substFrom ps idx (63 :: rest) =
      (substFrom ps (idx + 1) rest).map (fun out => valueToLiteral v ++ out) := by
  rw [substFrom]
  have hlen : rest.length < (63 :: rest).length := by simp
  simp only [nextToken_question rest h1 h2, hlen, dite_true, hv]
  simp [consumed]

/-- END-TO-END injection freedom for a bound text: substituting the text `s` for `?` and lexing
the result yields exactly one string token for the parameter, whose un-escaped content is `s`,
followed by the tokens of the (substituted) remainder — for every `s`. -/
theorem bound_text_is_one_token (ps : List PVal) (idx : Nat) (s rest out : List Nat)
    (hv : ps[idx]? = some (PVal.text s))
    (h1 : rest.head? ≠ some 124) (h2 : rest.head? ≠ some 38)
    (hout : substFrom ps (idx + 1) rest = some out) (hq : out.head? ≠ some 39) :
    substFrom ps idx (63 :: rest) = some (quote s ++ out) ∧
    lex (quote s ++ out) = Tok.str (escape s) :: lex out ∧
    unescape (escape s) = s := by
  refine ⟨?_, lex_quote s out hq, unescape_escape s⟩
  rw [subst_question ps idx rest (PVal.text s) h1 h2 hv, hout]
  simp [valueToLiteral]

/-! ### blob literals -/

theorem isHex_hexDigit : ∀ n, n < 16 → isHex (hexDigit n) = true := by decide

theorem hexOf_all_hex : ∀ (b : List Nat), ∀ x ∈ hexOf b, isHex x = true := by
  intro b
  induction b with
  | nil => intro x hx; simp [hexOf] at hx
  | cons a t ih =>
    intro x hx
    simp only [hexOf, List.mem_cons] at hx
    rcases hx with rfl | rfl | hx
    · exact isHex_hexDigit _ (Nat.mod_lt _ (by decide))
    · exact isHex_hexDigit _ (Nat.mod_lt _ (by decide))
    · exact ih x hx

/-- the literal printed for a bound blob (`X'<hex>'`) is exactly one hex-string token carrying the
hex digits, for every byte string, whatever follows -/
theorem scan_blob_literal (b rest : List Nat) :
    nextToken (88 :: 39 :: (hexOf b ++ 39 :: rest)) =
      ⟨88 :: 39 :: (hexOf b ++ 39 :: rest), Tok.hexnum (hexOf b), rest⟩ := by
  have hw : isWs 88 = false := by decide
  have hi : isIdStart 88 = true := by decide
  have h39 : isHex 39 = false := by decide
  have ht : (hexOf b ++ 39 :: rest).takeWhile isHex = hexOf b := by
    rw [List.takeWhile_append_of_pos (hexOf_all_hex b)]
    simp [List.takeWhile, h39]
  have hd : (hexOf b ++ 39 :: rest).dropWhile isHex = 39 :: rest := by
    rw [List.dropWhile_append_of_pos (hexOf_all_hex b)]
    simp [List.dropWhile, h39]
  simp only [nextToken, trivia_stop [] 88 _ hw (by decide) (by decide)]
  unfold scanTok; simp [hi, scanHexStr, ht, hd]

/-! ### integer literals: print (`i64::to_string`) then evaluate (`parse::<i64>` + unary minus) -/

theorem natDigitsAux_acc : ∀ (fuel n : Nat) (acc : List Nat),
    natDigitsAux fuel n acc = natDigitsAux fuel n [] ++ acc := by
  intro fuel
  induction fuel with
  | zero => intro n acc; simp [natDigitsAux]
  | succ f ih =>
    intro n acc
    simp only [natDigitsAux]
    by_cases h : n < 10
    · simp [h]
    · simp only [h, if_false]
      rw [ih (n / 10) ((48 + n % 10) :: acc), ih (n / 10) [48 + n % 10]]
      simp

theorem decVal_snoc (l : List Nat) (d : Nat) : decVal (l ++ [d]) = decVal l * 10 + (d - 48) := by
  simp [decVal, List.foldl_append]

theorem decVal_natDigitsAux : ∀ (fuel n : Nat), n < fuel → decVal (natDigitsAux fuel n []) = n := by
  intro fuel
  induction fuel with
  | zero => intro n h; omega
  | succ f ih =>
    intro n hn
    simp only [natDigitsAux]
    by_cases h : n < 10
    · simp [h, decVal]
    · simp only [h, if_false]
      rw [natDigitsAux_acc, decVal_snoc, ih (n / 10) (by omega)]
      omega

theorem natDigitsAux_ne_nil (fuel n : Nat) : natDigitsAux (fuel + 1) n [] ≠ [] := by
  simp only [natDigitsAux]
  by_cases h : n < 10
  · simp [h]
  · simp only [h, if_false]
    rw [natDigitsAux_acc]
    simp

/-- the decimal digits printed for `n` evaluate back to `n` -/
theorem decVal_natDigits (n : Nat) : decVal (natDigits n) = n :=
  decVal_natDigitsAux (n + 1) n (by omega)

/-- the token sequence the lexer produces for the printed integer `i` (`[-] digits`; the lexing
step itself is compared with the code in the correspondence run) -/
def intTokens (i : Int) : List Tok :=
  if i < 0 then [Tok.op "Minus", Tok.int (natDigits i.natAbs)] else [Tok.int (natDigits i.natAbs)]

/-- integer literal print/parse round trip, every i64 except i64::MIN -/
theorem int_literal_roundtrip_partial (i : Int) (h1 : -9223372036854775808 < i)
    (h2 : i < 9223372036854775808) : evalIntTokens (intTokens i) = some i := by
  have hne : (natDigits i.natAbs).isEmpty = false := by
    have := natDigitsAux_ne_nil i.natAbs i.natAbs
    simp only [natDigits]
    cases h : natDigitsAux (i.natAbs + 1) i.natAbs [] with
    | nil => exact absurd h this
    | cons a t => rfl
  have hle : i.natAbs ≤ 9223372036854775807 := by omega
  unfold intTokens
  split <;>
    simp only [evalIntTokens, parseI64Digits, hne, decVal_natDigits, hle, Bool.false_eq_true, if_false,
      if_true, Option.map_some, Int.ofNat_eq_natCast] <;>
    congr 1 <;> omega

/-- i64::MIN is printed as `-9223372036854775808`; its magnitude does not parse as an i64, so the
literal is rejected although the value is a valid BIGINT (the bound parameter is accepted). -/
theorem int_min_counterexample :
    evalIntTokens (intTokens (-9223372036854775808)) = none := by
  simp [intTokens, evalIntTokens, parseI64Digits, decVal_natDigits]

end TurVerif.C13
