import TurVerif.Model.Sql
import TurVerif.Props.C15
import TurVerif.Lemmas.ListAux
import TurVerif.Model.SqlAggImpl
/-!
C16  Aggregates and GROUP BY / HAVING follow SQL semantics.

Theorems about the reference semantics `TurVerif.Sql` (M-spec: `evalAgg`, `aggregate`,
`groupStage` *are* the definition the property statement refers to) and, in `Impl`, about the
M-code model of the engine's accumulator `AggregateState` (`TurVerif.SqlAggImpl`).  The rest of the
executor is not modelled; it is tied to this semantics by the differential engine `sql_agg`
(props/C16.json).
-/
namespace TurVerif.C16
open TurVerif.Sql

/-- the argument values of an aggregate over the rows of a group -/
def argVals (cols : List Row) : List Val := cols.map (fun r => r.headD .null)

def nonNull (vs : List Val) : List Val := vs.filter (fun v => !v.isNull)

theorem projectRows_cons_ok_iff {es : List Expr} {r : Row} {rs out : List Row} :
    projectRows es (r :: rs) = .ok out ↔
      ∃ v o, evalList r es = .ok v ∧ projectRows es rs = .ok o ∧ out = v :: o := by
  cases hv : evalList r es <;> cases ho : projectRows es rs <;> simp [projectRows, hv, ho, eq_comm]

theorem projectRows_append_ok_iff {es : List Expr} {l₁ l₂ out : List Row} :
    projectRows es (l₁ ++ l₂) = .ok out ↔
      ∃ o₁ o₂, projectRows es l₁ = .ok o₁ ∧ projectRows es l₂ = .ok o₂ ∧ out = o₁ ++ o₂ := by
  induction l₁ generalizing out with
  | nil => simp [projectRows]
  | cons r rs ih =>
    simp only [List.cons_append, projectRows_cons_ok_iff, ih]
    constructor
    · rintro ⟨v, _, hv, ⟨o₁, o₂, h1, h2, rfl⟩, rfl⟩
      exact ⟨v :: o₁, o₂, ⟨v, o₁, hv, h1, rfl⟩, h2, rfl⟩
    · rintro ⟨_, o₂, ⟨v, o₁, hv, h1, rfl⟩, h2, rfl⟩
      exact ⟨v, o₁ ++ o₂, hv, ⟨o₁, o₂, h1, h2, rfl⟩, rfl⟩

theorem projectRows_length (es : List Expr) : ∀ (rows out : List Row),
    projectRows es rows = .ok out → out.length = rows.length
  | [], out, h => by cases h; rfl
  | r :: rs, out, h => by
    obtain ⟨v, o, _, ho, rfl⟩ := projectRows_cons_ok_iff.mp h
    exact congrArg (· + 1) (projectRows_length es rs o ho)

theorem count_star_eq_length (e : Expr) (rows : List Row) :
    evalAgg ⟨.countStar, e⟩ rows = .ok (.int rows.length) := rfl

theorem count_eq_nonnull (e : Expr) (rows cols : List Row)
    (h : projectRows [e] rows = .ok cols) :
    evalAgg ⟨.count, e⟩ rows = .ok (.int (nonNull (argVals cols)).length) := by
  simp [evalAgg, h, nonNull, argVals]

/-- COUNT(e) never exceeds COUNT(*) -/
theorem count_le_count_star (e : Expr) (rows cols : List Row)
    (h : projectRows [e] rows = .ok cols) :
    (nonNull (argVals cols)).length ≤ rows.length := by
  rw [← projectRows_length [e] rows cols h]
  simpa [nonNull, argVals] using List.length_filter_le _ (argVals cols)

theorem agg_depends_on_nonnull_only (a : Agg) (rows₁ rows₂ cols₁ cols₂ : List Row)
    (hfn : a.fn ≠ .countStar)
    (h₁ : projectRows [a.arg] rows₁ = .ok cols₁) (h₂ : projectRows [a.arg] rows₂ = .ok cols₂)
    (hsame : nonNull (argVals cols₁) = nonNull (argVals cols₂)) :
    evalAgg a rows₁ = evalAgg a rows₂ := by
  obtain ⟨fn, arg⟩ := a
  simp only [nonNull, argVals] at hsame
  cases fn <;> first | exact absurd rfl hfn | simp only [evalAgg, h₁, h₂, hsame]

theorem agg_ignores_null_row (a : Agg) (l₁ l₂ : List Row) (r : Row)
    (hfn : a.fn ≠ .countStar) (hr : eval r a.arg = .ok .null)
    (cols : List Row) (h : projectRows [a.arg] (l₁ ++ l₂) = .ok cols) :
    evalAgg a (l₁ ++ r :: l₂) = evalAgg a (l₁ ++ l₂) := by
  obtain ⟨o₁, o₂, h1, h2, rfl⟩ := projectRows_append_ok_iff.mp h
  have hr' : evalList r [a.arg] = .ok [.null] := by simp [evalList, hr]
  have h' : projectRows [a.arg] (l₁ ++ r :: l₂) = .ok (o₁ ++ [.null] :: o₂) :=
    projectRows_append_ok_iff.mpr
      ⟨o₁, _, h1, projectRows_cons_ok_iff.mpr ⟨_, o₂, hr', h2, rfl⟩, rfl⟩
  refine agg_depends_on_nonnull_only a _ _ _ _ hfn h' h ?_
  simp [nonNull, argVals, Val.isNull]

theorem empty_count_star (e : Expr) : evalAgg ⟨.countStar, e⟩ [] = .ok (.int 0) := rfl
theorem empty_count (e : Expr) : evalAgg ⟨.count, e⟩ [] = .ok (.int 0) := rfl
theorem empty_sum (e : Expr) : evalAgg ⟨.sum, e⟩ [] = .ok .null := rfl
theorem empty_avg (e : Expr) : evalAgg ⟨.avg, e⟩ [] = .ok .null := rfl
theorem empty_min (e : Expr) : evalAgg ⟨.min, e⟩ [] = .ok .null := rfl
theorem empty_max (e : Expr) : evalAgg ⟨.max, e⟩ [] = .ok .null := rfl

theorem all_null_input (a : Agg) (rows cols : List Row) (hfn : a.fn ≠ .countStar)
    (h : projectRows [a.arg] rows = .ok cols) (hn : nonNull (argVals cols) = []) :
    evalAgg a rows = .ok (if a.fn = .count then .int 0 else .null) := by
  rw [agg_depends_on_nonnull_only a rows [] cols [] hfn h rfl hn]
  obtain ⟨fn, arg⟩ := a
  cases fn <;> first | exact absurd rfl hfn | rfl

theorem no_group_by_exactly_one_row (aggs : List Agg) (rows out : List Row)
    (h : aggregate [] aggs rows = .ok out) : out.length = 1 := by
  simp only [aggregate, List.isEmpty_nil, if_true] at h
  split at h <;> cases h
  rfl

theorem group_by_empty_input (keys : List Expr) (aggs : List Agg) (hk : keys ≠ []) :
    aggregate keys aggs [] = .ok [] := by
  cases keys with
  | nil => exact absurd rfl hk
  | cons k ks => simp [aggregate, groupKeys, projectRows, distinct, aggregate.go]

theorem evalAggs_length (as : List Agg) (rows : List Row) (vs : List Val)
    (h : evalAggs as rows = .ok vs) : vs.length = as.length := by
  induction as generalizing vs with
  | nil => cases h; rfl
  | cons a rest ih =>
    simp only [evalAggs] at h
    split at h <;> cases h
    exact congrArg (· + 1) (ih _ ‹_›)

theorem go_cons_ok (keys : List Expr) (aggs : List Agg) (rows : List Row) (k : Row) (rest out : List Row)
    (h : aggregate.go keys aggs rows (k :: rest) = .ok out) :
    ∃ g vs o, groupRows keys k rows = .ok g ∧ evalAggs aggs g = .ok vs ∧
      aggregate.go keys aggs rows rest = .ok o ∧ out = (k ++ vs) :: o := by
  simp only [aggregate.go] at h
  split at h
  · cases h
  · split at h <;> cases h
    exact ⟨_, _, _, ‹_›, ‹_›, ‹_›, rfl⟩

theorem go_shape (keys : List Expr) (aggs : List Agg) (rows : List Row) :
    ∀ (ks out : List Row), aggregate.go keys aggs rows ks = .ok out →
      out.length = ks.length ∧ ∀ i (hi : i < out.length) (hk : i < ks.length),
        ∃ vs, out[i] = ks[i] ++ vs ∧ vs.length = aggs.length := by
  intro ks
  induction ks with
  | nil => intro out h; simp [aggregate.go] at h; subst h; simp
  | cons k rest ih =>
    intro out h
    obtain ⟨g, vs, o, _, hv, ho, rfl⟩ := go_cons_ok keys aggs rows k rest out h
    obtain ⟨h1, h2⟩ := ih o ho
    refine ⟨congrArg (· + 1) h1, fun i hi hk => ?_⟩
    cases i with
    | zero => exact ⟨vs, rfl, evalAggs_length aggs g vs hv⟩
    | succ j => exact h2 j (Nat.lt_of_succ_lt_succ hi) (Nat.lt_of_succ_lt_succ hk)

/-- GROUP BY returns exactly one row per distinct key value (in first-occurrence order), the row
starts with the key, and no two result rows have the same key; NULL keys are not distinct from
each other, so all rows with a NULL key fall into ONE group -/
theorem one_row_per_distinct_key (keys : List Expr) (aggs : List Agg) (rows out : List Row)
    (hk : keys ≠ []) (h : aggregate keys aggs rows = .ok out) :
    ∃ kvs, projectRows keys rows = .ok kvs ∧ out.length = (distinct kvs).length ∧
      (distinct kvs).Pairwise (fun a b => rowSame a b = false) ∧
      ∀ i (hi : i < out.length) (hd : i < (distinct kvs).length),
        ∃ vs, out[i] = (distinct kvs)[i] ++ vs ∧ vs.length = aggs.length := by
  cases keys with
  | nil => exact absurd rfl hk
  | cons k ks =>
    simp only [aggregate, List.isEmpty_cons, Bool.false_eq_true, if_false, groupKeys] at h
    cases hp : projectRows (k :: ks) rows with
    | error e => simp [hp] at h
    | ok kvs =>
      simp [hp] at h
      obtain ⟨h1, h2⟩ := go_shape (k :: ks) aggs rows (distinct kvs) out h
      exact ⟨kvs, rfl, h1, C15.distinct_nodup kvs, h2⟩

theorem null_keys_one_group : rowSame [Val.null] [Val.null] = true := rowSame_refl _

/-- rows whose keys are the same (NULL = NULL included) belong to the same groups -/
theorem same_key_same_group (k k₁ k₂ : Row) (h : rowSame k₁ k₂ = true) :
    rowSame k k₁ = rowSame k k₂ :=
  rowSame_congr_right h k

theorem groupRows_length (keys : List Expr) (k : Row) : ∀ (rows kvs : List Row),
    projectRows keys rows = .ok kvs →
    ∃ g, groupRows keys k rows = .ok g ∧ g.length = (kvs.filter (fun kv => rowSame k kv)).length := by
  intro rows
  induction rows with
  | nil => intro kvs h; simp [projectRows] at h; subst h; exact ⟨[], rfl, rfl⟩
  | cons r rs ih =>
    intro kvs h
    obtain ⟨v, o, hv, ho, rfl⟩ := projectRows_cons_ok_iff.mp h
    obtain ⟨g, hg, hl⟩ := ih o ho
    refine ⟨if rowSame k v then r :: g else g, by simp only [groupRows, hv, hg], ?_⟩
    rw [List.filter_cons]
    cases rowSame k v <;> simp [hl]

/-- double counting: if every element of `l` is the same as exactly one key of `d`, the class sizes
add up to the size of `l` -/
theorem count_partition (d l : List Row)
    (h : ∀ x ∈ l, (d.filter (fun k => rowSame k x)).length = 1) :
    (d.map (fun k => (l.filter (fun x => rowSame k x)).length)).sum = l.length := by
  rw [sum_length_filter_swap, List.map_congr_left h, List.map_const', List.sum_replicate_nat,
    Nat.mul_one]

/-- the groups of GROUP BY partition the input: every input row lies in exactly one group, so the
group sizes (= the COUNT(*) values) add up to the number of input rows -/
theorem groups_partition (keys : List Expr) (rows kvs : List Row)
    (h : projectRows keys rows = .ok kvs) :
    (∀ k, ∃ g, groupRows keys k rows = .ok g ∧
        g.length = (kvs.filter (fun kv => rowSame k kv)).length) ∧
    (∀ x ∈ kvs, ((distinct kvs).filter (fun k => rowSame k x)).length = 1) ∧
    ((distinct kvs).map (fun k => (kvs.filter (fun kv => rowSame k kv)).length)).sum = rows.length := by
  refine ⟨fun k => groupRows_length keys k rows kvs h, ?_, ?_⟩
  · intro x hx; exact C15.distinct_exactly_once kvs x hx
  · rw [count_partition (distinct kvs) kvs (fun x hx => C15.distinct_exactly_once kvs x hx)]
    exact projectRows_length keys rows kvs h

def keepsB (p : Expr) (r : Row) : Bool :=
  match keeps p r with
  | .ok true => true
  | _ => false

theorem keepsB_eq_kept : keepsB = kept := by
  funext p r
  unfold keepsB kept
  cases keeps p r with
  | ok b => cases b <;> rfl
  | error e => rfl

theorem having_is_filter (q : Select) (rows groups out : List Row) (hq : q.grouped = true)
    (hg : aggregate q.keys q.aggs rows = .ok groups) (p : Expr) (hh : q.having = some p)
    (h : groupStage q rows = .ok out) : out = groups.filter (keepsB p) := by
  simp only [groupStage, hq, if_true, hg, hh, optFilter] at h
  exact keepsB_eq_kept ▸ (filterRows_ok_iff.mp h).1

theorem no_having_keeps_all (q : Select) (rows groups : List Row) (hq : q.grouped = true)
    (hg : aggregate q.keys q.aggs rows = .ok groups) (hh : q.having = none) :
    groupStage q rows = .ok groups := by
  simp [groupStage, hq, hg, hh, optFilter]

/-- one instance: `i64::MAX + 1` -/
theorem sum_overflow_is_error :
    evalAgg ⟨.sum, .col 0⟩ [[.int i64Max], [.int 1]] = .error .overflow := rfl

namespace Impl
open TurVerif.SqlAggImpl

def isNullAV : AV → Bool
  | .null => true
  | _ => false

/-- the accumulator's COUNT is the number of *rows*: `update .count` never looks at the value -/
theorem implCount_is_row_count : ∀ (vs : List AV) (s : St),
    s.count + vs.length ≤ SqlAggImpl.i64Max → SqlAggImpl.i64Min ≤ s.count →
    (fold .count s vs).map (finalize .count) = some (.int (s.count + vs.length)) := by
  intro vs
  induction vs with
  | nil => intro s _ _; simp [fold, finalize]
  | cons v rest ih =>
    intro s h1 h2
    have hlen : ((v :: rest).length : Int) = 1 + (rest.length : Int) := by
      rw [List.length_cons, Int.natCast_add, Int.add_comm]; rfl
    rw [hlen, ← Int.add_assoc] at h1 ⊢
    have h2' : SqlAggImpl.i64Min ≤ s.count + 1 :=
      Int.le_trans h2 (Int.le_add_of_nonneg_right (by decide))
    have hc : addChk s.count 1 = some (s.count + 1) :=
      if_pos ⟨h2', Int.le_trans (Int.le_add_of_nonneg_right (Int.natCast_nonneg _)) h1⟩
    simp only [fold, update, hc, Option.map_some]
    exact ih { s with count := s.count + 1 } h1 h2'

/-- full statement "COUNT(e) = number of non-NULL values" is FALSE of the engine's accumulator:
COUNT over (NULL, 1) is 2 -/
theorem implCount_counts_nulls_counterexample :
    ¬ (∀ vs : List AV, run .count vs = some (.int ((vs.filter (fun v => !isNullAV v)).length))) :=
  fun h => absurd (h [.null, .int 1]) (by decide)

/-- partial: on NULL-free input the accumulator's COUNT is right -/
theorem implCount_partial (vs : List AV) (hn : ∀ v ∈ vs, isNullAV v = false)
    (hb : (vs.length : Int) ≤ SqlAggImpl.i64Max) :
    run .count vs = some (.int ((vs.filter (fun v => !isNullAV v)).length)) := by
  have hf : vs.filter (fun v => !isNullAV v) = vs := by
    rw [List.filter_eq_self]; intro v hv; simp [hn v hv]
  have := implCount_is_row_count vs {} (by simpa using hb) (by decide)
  simpa [run, hf] using this

/-- full statement "SUM over no input is NULL" is FALSE of the accumulator: it returns 0 -/
theorem implSum_empty_counterexample : run .sum [] = some (.int 0) ∧ run .sum [.null, .null] = some (.int 0) := by
  decide

/-- MIN/MAX ignore every non-numeric value: over TEXT they return NULL -/
theorem implMinMax_text_counterexample :
    run .min [.other, .other] = some .null ∧ run .max [.other] = some .null := by decide

/-- SUM over BIGINT whose sum leaves the 64-bit range panics (dev profile), it is not an SQL error -/
theorem implSum_overflow_panics : run .sum [.int SqlAggImpl.i64Max, .int 1] = none := by decide

/-- NULLs are ignored by the accumulator's SUM, AVG, MIN, MAX (only COUNT is wrong) -/
theorem impl_update_ignores_null (f : Fn) (hf : f ≠ .count) (s : St) : update f s .null = some s := by
  cases f <;> simp_all [update]

end Impl

/-! ### non-vacuity -/
example : aggregate [.col 0] [⟨.countStar, .lit .null⟩, ⟨.count, .col 1⟩]
    [[.null, .int 1], [.int 2, .null], [.null, .null]] =
    .ok [[.null, .int 2, .int 1], [.int 2, .int 1, .int 0]] := rfl

end TurVerif.C16
