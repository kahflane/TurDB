import TurVerif.Model.Commit
import TurVerif.Lemmas.Commit
/-!
C01  Acknowledged writes survive a crash (page-level protocol model `TurVerif.Commit`).

What is proved: the WAL protocol — mutate pages in place, log the final image of every mutated page,
flush + fdatasync, then acknowledge — is *sufficient*: after a power loss at any event index the
redo recovery yields exactly the page state after the acknowledged statements, or that plus the whole
in-flight statement (`durable_power`); after a process kill every page the in-flight statement did
not touch carries its acknowledged image (`durable_kill_partial`).

What the pinned code does *not* do is follow that protocol for every page.  Each deviation below was
first reproduced on the real code by the `crash` engine (see known_findings.json) and is then shown,
on the same model, to break the conclusion:
* index pages are mutated in place and never logged            (`index_pages_unlogged_counterexample`)
* `Database::checkpoint` truncates the WAL without any msync   (`checkpoint_truncate_counterexample`)
* an UPDATE's TOAST pages are not logged while older frames of
  the same pages stay in the WAL and are redone over them      (`stale_redo_counterexample`)
-/
namespace TurVerif.C01
open TurVerif.Commit

/-- recovering twice (e.g. a second crash during recovery) changes nothing -/
theorem redo_idempotent (pg : Pages) (w : List Frame) : redo (redo pg w) w = redo pg w := by
  funext f p
  rw [redo_apply (redo pg w), redo_apply pg]
  cases w.reverse.find? fun fr => fr.file == f && fr.page == p <;> rfl

def lastImg (w : List Frame) (f p : Nat) : Option Nat :=
  (w.reverse.find? (fun fr => fr.file == f && fr.page == p)).map (·.img)

/-- what recovery computes, page by page (last writer wins): a page with frames gets the image of
its NEWEST frame, a page without frames keeps its on-disk content -/
theorem redo_last_writer (w : List Frame) : ∀ (pg : Pages) (f p : Nat),
    redo pg w f p = (lastImg w f p).getD (pg f p) := by
  intro pg f p
  exact redo_apply pg w f p

example : redo Pages.empty [⟨1, 1, 7, false⟩, ⟨1, 2, 9, false⟩, ⟨1, 1, 8, false⟩] 1 1 = 8 := by
  rw [redo_last_writer]; decide

/-- `s` is a state in which every statement so far is complete and the pages are `P`: nothing is
buffered, the WAL file is synced, recovery from the durable layer yields `P`, the page cache holds `P`
and a redo of the WAL file over it changes nothing -/
structure Quiescent (s : State) (P : Pages) : Prop where
  buf : s.walBuf = []
  os : s.walOs = s.walDur
  rcv : redo s.dur s.walDur = P
  vol : s.vol = P
  fix : redo s.vol s.walOs = s.vol

theorem Quiescent.stmt {s : State} {P : Pages} (h : Quiescent s P) (ms : Stmt) :
    Quiescent (run s (stmtTrace ms)) (applyMuts P ms) := by
  rw [run_stmtTrace]
  refine ⟨rfl, rfl, ?_, ?_, ?_⟩
  · show redo s.dur (s.walOs ++ (s.walBuf ++ framesList ms)) = _
    rw [h.buf, List.nil_append, h.os, redo_append, h.rcv, redo_framesList]
  · show applyMuts s.vol ms = _
    rw [h.vol]
  · show redo (applyMuts s.vol ms) (s.walOs ++ (s.walBuf ++ framesList ms)) = applyMuts s.vol ms
    rw [h.buf, List.nil_append, redo_append, redo_framesList]
    funext f p
    -- a page `ms` writes ends with its last image whatever lies under it; any other page is left
    -- alone by `ms`, and the redo of the old WAL file over the old cache changes nothing
    rw [applyMuts_apply, applyMuts_apply s.vol]
    cases hfind : ms.reverse.find? fun m => m.file == f && m.page == p with
    | some m => rfl
    | none =>
      show redo (applyMuts s.vol ms) s.walOs f p = s.vol f p
      rw [redo_congr_at s.walOs _ s.vol f p (by rw [applyMuts_apply, hfind]; rfl), h.fix]

theorem Quiescent.protocol {s : State} {P : Pages} (h : Quiescent s P) (stmts : List Stmt) :
    Quiescent (run s (protocolTrace stmts)) (stmts.foldl applyMuts P) := by
  induction stmts generalizing s P with
  | nil => exact h
  | cons ms rest ih =>
    rw [protocolTrace, List.flatMap_cons, run_append]
    exact ih (h.stmt ms)

theorem Quiescent.init : Quiescent {} Pages.empty := ⟨rfl, rfl, rfl, rfl, rfl⟩

/-- The state at a crash point of a protocol trace run from a quiescent state, with `n`
acknowledgements before the crash.  Either it agrees with the quiescent state after the first `n`
statements on everything durable, on the WAL file and on every page the statement in flight does
not touch; or it is the quiescent state after `n + 1` statements (the last one lacks only its
acknowledgement). -/
theorem crash_state : ∀ (stmts : List Stmt) {s : State} {P : Pages}, Quiescent s P →
    ∀ pre, pre <+: protocolTrace stmts →
    (∃ s0, Quiescent s0 ((stmts.take (ackCount pre)).foldl applyMuts P) ∧
      (run s pre).dur = s0.dur ∧ (run s pre).walOs = s0.walOs ∧ (run s pre).walDur = s0.walDur ∧
      ∀ f p, (∀ ms, stmts[ackCount pre]? = some ms → touched ms f p = false) →
        (run s pre).vol f p = s0.vol f p) ∨
    Quiescent (run s pre) ((stmts.take (ackCount pre + 1)).foldl applyMuts P) := by
  intro stmts
  induction stmts with
  | nil =>
    intro s P Q pre h
    rw [List.prefix_nil.mp h]
    exact Or.inl ⟨s, Q, rfl, rfl, rfl, fun _ _ _ => rfl⟩
  | cons ms rest ih =>
    intro s P Q pre h
    obtain ⟨t, ht⟩ := h
    rw [protocolTrace, List.flatMap_cons] at ht
    rcases List.append_eq_append_iff.mp ht with ⟨a, ha, _⟩ | ⟨c, hc, hct⟩
    · -- the crash falls inside the first statement: body, sync, ack
      have hp : pre <+: body ms ++ [Event.walSync] ++ [Event.ack] := ⟨a, by rw [← stmtTrace_eq, ha]⟩
      rcases List.prefix_concat_iff.mp hp with hp | hp
      · -- all of it
        rw [hp, ← stmtTrace_eq, ackCount_stmtTrace]
        exact Or.inl ⟨_, Q.stmt ms, rfl, rfl, rfl, fun _ _ _ => rfl⟩
      · rcases List.prefix_concat_iff.mp hp with hp | hp
        · -- up to the sync: the state of the complete statement
          have h0 : ackCount pre = 0 := by
            rw [hp, ackCount_append, ackCount_quiet _ (quiet_body ms)]; rfl
          rw [h0, ← run_append_ack, hp, ← stmtTrace_eq]
          exact Or.inr (Q.stmt ms)
        · -- part of the body: nothing synced, only pages of `ms` written in place
          have hq : ∀ e ∈ pre, quiet e = true := fun e he => quiet_body ms e (hp.mem he)
          obtain ⟨h1, h2, h3, h4⟩ := run_quiet pre s hq
          rw [ackCount_quiet pre hq]
          exact Or.inl ⟨s, Q, h1, h2, h3, fun f p hun => h4 f p fun v hv =>
            body_untouched ms f p (hun ms rfl) v (hp.mem hv)⟩
    · -- the first statement is complete and the crash falls `c` events into the rest
      subst hc
      -- with the count as `ackCount c + 1`, `take` and `[·]?` on `ms :: rest` reduce to those on
      -- `rest`: the goal is the induction hypothesis at `run s (stmtTrace ms)`, `applyMuts P ms`
      rw [ackCount_append, ackCount_stmtTrace, Nat.add_comm, run_append]
      rcases ih (Q.stmt ms) c ⟨t, hct.symm⟩ with ⟨s0, Q0, h1, h2, h3, h4⟩ | Q1
      · exact Or.inl ⟨s0, Q0, h1, h2, h3, fun f p hun => h4 f p hun⟩
      · exact Or.inr Q1

/-- C01, power-loss model, for every trace the WAL protocol produces and every crash index: recovery
yields the page state after the acknowledged statements, or that plus the complete in-flight one. -/
theorem durable_power (stmts : List Stmt) (k : Nat) :
    recover (crashPower (protocolTrace stmts) k) = pagesAfter (stmts.take (acked (protocolTrace stmts) k)) ∨
    recover (crashPower (protocolTrace stmts) k) = pagesAfter (stmts.take (acked (protocolTrace stmts) k + 1)) := by
  rw [recover_crashPower]
  rcases crash_state stmts Quiescent.init _ (List.take_prefix k _) with ⟨s0, Q, h1, _, h3, _⟩ | Q
  · rw [h1, h3]; exact Or.inl Q.rcv
  · exact Or.inr Q.rcv

/-- in particular: once acknowledged, a statement's page images are never lost by a later power loss -/
theorem durable_power_quiescent (stmts : List Stmt) :
    recover (crashPower (protocolTrace stmts) (protocolTrace stmts).length) = pagesAfter stmts := by
  rw [recover_crashPower, List.take_length]
  exact (Quiescent.init.protocol stmts).rcv

/-- non-vacuity: a two-statement trace, crash after the first acknowledgement -/
example : recover (crashPower (protocolTrace [[⟨1, 1, 7⟩], [⟨1, 1, 8⟩, ⟨1, 2, 9⟩]]) 4) 1 1 = 7 := by decide

/-- C01, kill model, for every protocol trace and crash index: every page that the in-flight
statement (the one after the acknowledged prefix) does not touch is recovered to the image the
acknowledged statements gave it.  (Pages of the in-flight statement itself may keep a partial,
uncommitted image — there are no before-images; see `C02.kill_atomicity_counterexample`.) -/
theorem durable_kill_partial (stmts : List Stmt) (k : Nat) (f p : Nat)
    (hun : ∀ ms, stmts[acked (protocolTrace stmts) k]? = some ms → touched ms f p = false) :
    recover (crashKill (protocolTrace stmts) k) f p =
      pagesAfter (stmts.take (acked (protocolTrace stmts) k)) f p := by
  rw [recover_crashKill]
  rcases crash_state stmts Quiescent.init _ (List.take_prefix k _) with ⟨s0, Q, _, h2, _, h4⟩ | Q
  · rw [h2, redo_congr_at _ _ _ f p (h4 f p hun), Q.fix, Q.vol]
    rfl
  · -- statement `n + 1` is complete but for its acknowledgement, and does not touch (f, p)
    rw [Q.fix, Q.vol, List.take_add_one, pagesAfter, List.foldl_append]
    cases hms : stmts[ackCount ((protocolTrace stmts).take k)]? with
    | none => rfl
    | some ms => exact applyMuts_untouched _ ms f p (hun ms hms)

/-- non-vacuity of the hypothesis: statement 2 in flight, page (1,1) belongs to statement 1 only -/
example : recover (crashKill (protocolTrace [[⟨1, 1, 7⟩], [⟨1, 2, 9⟩]]) 5) 1 1 = 7 := by decide

/-- Index (`.idx`) pages are written in place but never logged and never synced at commit
(finding `C02-index-pages-bypass-wal`, signature `crash:power:dml-pk:ack:index-disagrees`).  Trace of
`INSERT` into a table (file 1) with a primary-key index (file 2): after the acknowledgement a power
loss leaves the index page at its old image although the table page is recovered. -/
theorem index_pages_unlogged_counterexample :
    let es := [Event.mut 1 1 10, Event.mut 2 1 20, Event.walWrite 1 1 10, Event.walSync, Event.ack]
    recover (crashPower es 5) 1 1 = 10 ∧ recover (crashPower es 5) 2 1 ≠ 20 := by decide

/-- `Database::checkpoint` (lifecycle.rs) calls `wal.truncate()` without msync of the table files
(finding `crash:power:ckpt:wal_truncate:acked-lost`): the acknowledged image exists only in the
page cache and in the WAL, and the WAL is cut. -/
theorem checkpoint_truncate_counterexample :
    let es := [Event.mut 1 1 10, Event.walWrite 1 1 10, Event.walSync, Event.ack, Event.truncate, Event.ack]
    recover (crashPower es 4) 1 1 = 10 ∧ recover (crashPower es 6) 1 1 ≠ 10 := by decide

/-- An UPDATE rewrites TOAST pages in place without logging them, while the frame an earlier INSERT
logged for the same page is still in the WAL: redo puts the *older* image back — even after a mere
process kill at a quiescent point (finding `crash:kill:big:ack:acked-lost`). -/
theorem stale_redo_counterexample :
    let es := [Event.mut 4 1 10, Event.walWrite 4 1 10, Event.walSync, Event.ack,
               Event.mut 4 1 11, Event.ack]
    recover (crashKill es 6) 4 1 = 10 ∧ (run {} es).vol 4 1 = 11 := by decide

/-- What the final `wal.sync()` of a commit buys (the chunked commit path
`execute_chunked_wal_commit` writes its frames with `write_frames_batch_no_sync` and relies on ONE
sync at the end): if a commit acknowledges without it, its frames are still in the user-space
buffer.  After a power loss the acknowledged image is gone; and because an OLDER frame of the same
page is already in the WAL file, even a plain process kill recovers the older image over the newer
page (redo of a stale frame). -/
theorem unsynced_commit_counterexample :
    let es := [Event.mut 1 1 9, Event.walWrite 1 1 9, Event.walSync, Event.ack,
               Event.mut 1 1 10, Event.walWrite 1 1 10, Event.ack]
    (run {} es).vol 1 1 = 10 ∧ recover (crashPower es 7) 1 1 = 9 ∧ recover (crashKill es 7) 1 1 = 9 := by
  decide

/-- with the sync in place the same history is durable under both crash models -/
theorem synced_commit_same_history :
    let es := [Event.mut 1 1 9, Event.walWrite 1 1 9, Event.walSync, Event.ack,
               Event.mut 1 1 10, Event.walWrite 1 1 10, Event.walSync, Event.ack]
    recover (crashPower es 8) 1 1 = 10 ∧ recover (crashKill es 8) 1 1 = 10 := by decide

end TurVerif.C01
