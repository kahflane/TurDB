import TurVerif.Lemmas.CalArith
import TurVerif.Lemmas.CalInverse
import TurVerif.Lemmas.CalText
/-!
C41  Date and time values convert consistently with the calendar.

Theorems about the model `TurVerif.Cal` (Model/Cal.lean): M-spec = the proleptic Gregorian calendar
defined by counting days (`daysFromCivil`, Rata Die: 0001-01-01 ↦ 1); M-code = transcriptions of
the converters of literal.rs, constraints/mod.rs, predicate.rs, datetime.rs, cli/table.rs.
-/
namespace TurVerif.C41
open TurVerif.Cal

/-- the Unix epoch 1970-01-01 has Rata Die 719163 -/
theorem epoch_rd : daysFromCivil 1970 1 1 = 719163 := by
  unfold daysFromCivil
  have : (1970 : Nat) - 1 = 1969 := rfl
  rw [this, daysUpToYear_1969]; rfl

/-- literal.rs `date_to_days_since_epoch` (year loop + month loop) = calendar − 719163, for EVERY
year ≥ 1 and every month/day field (no upper bound on the year). -/
theorem lit_eq_spec (y m d : Nat) (hy : 1 ≤ y) :
    litDateToDays (y : Int) m d = (daysFromCivil y m d : Nat) - 719163 :=
  litDateToDays_nat y m d hy

/-- constraints/mod.rs `days_from_ymd` (also inlined in predicate.rs CAST) = calendar − 719163 -/
theorem default_eq_spec (y m d : Nat) (hy : 1 ≤ y) (hm1 : 1 ≤ m) (hm2 : m ≤ 12) (hd : d ≤ 31) :
    defDaysFromYmd (y : Int) m d = (daysFromCivil y m d : Nat) - 719163 :=
  defDaysFromYmd_nat y m d hy hm1 hm2 (by omega)

/-- datetime.rs `date_to_days` (TO_DAYS) = calendar day number (Rata Die) -/
theorem fn_eq_spec (y m d : Nat) (hy : 1 ≤ y) (hm1 : 1 ≤ m) (hm2 : m ≤ 12) :
    fnDateToDays (y : Int) m d = (daysFromCivil y m d : Nat) :=
  fnDateToDays_nat y m d hy hm1 hm2

/-- all forward converters agree on every calendar date: literal = DEFAULT = CAST day number, and
TO_DAYS differs from them by the constant 719163 (its epoch is 0001-01-01 ↦ 1) -/
theorem converters_agree (y m d : Nat) (hv : validDate y m d = true) :
    litDateToDays (y : Int) m d = defDaysFromYmd (y : Int) m d ∧
    fnDateToDays (y : Int) m d = litDateToDays (y : Int) m d + 719163 := by
  obtain ⟨hy, hm1, hm2, hd1, hd2⟩ := validDate_bounds hv
  rw [lit_eq_spec y m d hy, default_eq_spec y m d hy hm1 hm2 (by omega), fn_eq_spec y m d hy hm1 hm2]
  omega

/-- the range checks of `parse_date` (literal.rs; the same checks are in predicate.rs) accept exactly
the dates of the calendar -/
theorem lit_valid_iff (y m d : Nat) (hy : 1 ≤ y) : litDateOk (y : Int) m d = validDate y m d := by
  unfold litDateOk validDate
  rw [litDaysInMonth_nat]
  simp [hy]

/-- the calendar day number is strictly increasing in the lexicographic order of (year, month, day) -/
theorem spec_strict_mono (y m d y' m' d' : Nat) (hv : validDate y m d = true)
    (hv' : validDate y' m' d' = true)
    (hlt : y < y' ∨ (y = y' ∧ (m < m' ∨ (m = m' ∧ d < d')))) :
    daysFromCivil y m d < daysFromCivil y' m' d' := by
  obtain ⟨hy, hm1, hm2, hd1, hd2⟩ := (validDate_iff y m d).1 hv
  obtain ⟨hy', hm1', hm2', hd1', hd2'⟩ := (validDate_iff y' m' d').1 hv'
  unfold daysFromCivil
  rcases hlt with h | ⟨rfl, h | ⟨rfl, h⟩⟩
  · have h1 := valid_le_yearLen y m d hv
    have h2 := daysUpToYear_succ y hy
    have h3 := daysUpToYear_mono (show y ≤ y' - 1 by omega)
    omega
  · have h1 := daysUpToMonth_succ y m hm1
    have h2 := daysUpToMonth_mono y (show m ≤ m' - 1 by omega)
    omega
  · omega

/-- hence literal.rs `date_to_days_since_epoch` is strictly monotone on calendar dates; the other forward
converters differ from it by constants (`converters_agree`) -/
theorem lit_strict_mono (y m d y' m' d' : Nat) (hv : validDate y m d = true)
    (hv' : validDate y' m' d' = true)
    (hlt : y < y' ∨ (y = y' ∧ (m < m' ∨ (m = m' ∧ d < d')))) :
    litDateToDays (y : Int) m d < litDateToDays (y' : Int) m' d' := by
  have := spec_strict_mono y m d y' m' d' hv hv' hlt
  rw [lit_eq_spec _ _ _ ((validDate_iff y m d).1 hv).1, lit_eq_spec _ _ _ ((validDate_iff y' m' d').1 hv').1]
  omega

/-- datetime.rs `days_to_date` (FROM_DAYS, DATE_ADD, MAKEDATE) inverts `date_to_days` on every
calendar date of every year ≥ 1 -/
theorem fn_inverse (y m d : Nat) (hv : validDate y m d = true) :
    fnDaysToDate (fnDateToDays (y : Int) m d) = ((y : Int), m, d) := by
  obtain ⟨hy, hm1, hm2, -, -⟩ := (validDate_iff y m d).1 hv
  rw [fn_eq_spec y m d hy hm1 hm2]
  exact fnDaysToDate_civil y m d hv

/-- cli/table.rs `jdn_to_ymd` (the renderer of DATE and TIMESTAMP values) inverts the JDN formula of
DEFAULT / CAST — and hence, by `converters_agree`, the literal parser — on every calendar date -/
theorem cli_inverse (y m d : Nat) (hv : validDate y m d = true) :
    cliJdnToYmd (2440588 + defDaysFromYmd (y : Int) m d) = ((y : Int), m, d) := by
  obtain ⟨hy, hm1, hm2, -, hd2⟩ := validDate_bounds hv
  rw [default_eq_spec y m d hy hm1 hm2 hd2]
  exact cliJdnToYmd_civil y m d hv

theorem cli_inverse_lit (y m d : Nat) (hv : validDate y m d = true) :
    cliJdnToYmd (2440588 + litDateToDays (y : Int) m d) = ((y : Int), m, d) := by
  rw [(converters_agree y m d hv).1]; exact cli_inverse y m d hv

/-- datetime.rs `day_of_week` (DAYOFWEEK / DAYNAME / WEEKDAY; 0 = Sunday) is the calendar day number
mod 7, although its Zeller sum goes negative from year 2000 on and Rust `%` truncates -/
theorem weekday_eq_spec (y m d : Nat) (hv : validDate y m d = true) :
    fnDayOfWeek (y : Int) m d = weekdaySpec y m d := by
  obtain ⟨hy, hm1, hm2, hd1, hd2⟩ := (validDate_iff y m d).1 hv
  unfold fnDayOfWeek weekdaySpec
  rw [fnDayOfWeekRaw_nat y m d hy hm1 hm2]
  have : ((daysFromCivil y m d : Nat) : Int) % 7 = ((daysFromCivil y m d % 7 : Nat) : Int) := by omega
  rw [this, asU32_nat _ (by omega)]

/-- datetime.rs `day_of_year` = ordinal of the date within its year -/
theorem day_of_year_eq_spec (y m d : Nat) (hv : validDate y m d = true) :
    fnDayOfYear (y : Int) m d = daysUpToMonth y (m - 1) + d := by
  obtain ⟨hy, hm1, hm2, hd1, hd2⟩ := validDate_bounds hv
  have hyl := valid_le_yearLen y m d hv
  have := yearLen_le y
  unfold fnDayOfYear
  rw [fn_eq_spec y m d hy hm1 hm2, fn_eq_spec y 1 1 hy (by omega) (by omega)]
  unfold daysFromCivil
  have h0 : daysUpToMonth y (1 - 1) = 0 := rfl
  rw [h0]
  have : (((daysUpToYear (y - 1) + daysUpToMonth y (m - 1) + d : Nat) : Int)
      - ((daysUpToYear (y - 1) + 0 + 1 : Nat) : Int) + 1) = ((daysUpToMonth y (m - 1) + d : Nat) : Int) := by
    omega
  rw [this, asU32_nat _ (by omega)]

theorem litDateOk_of_valid (y m d : Nat) (hv : validDate y m d = true) : litDateOk (y : Int) m d = true := by
  rw [lit_valid_iff y m d ((validDate_iff y m d).1 hv).1]; exact hv

/-- literal.rs `parse_date` on the canonical text `YYYY-MM-DD` of a calendar date of years 1..9999
yields the day number the calendar defines (Unix epoch) -/
theorem lit_parse_canonical (y m d : Nat) (hy : y ≤ 9999) (hv : validDate y m d = true) :
    litParseDate (fmtYmd (y : Int) m d) = some (((daysFromCivil y m d : Nat) : Int) - 719163) := by
  obtain ⟨hy1, hm1, hm2, hd1, hd2⟩ := validDate_bounds hv
  rw [litParseDate_fmt y m d (by omega) (by omega) (by omega), litDateOk_of_valid y m d hv,
    lit_eq_spec y m d hy1]
  rfl

/-- … and rejects every `YYYY-MM-DD` text (two-digit month and day fields, year 1..9999) that is not a
calendar date: Feb 29 of a non-leap year, Feb 30, month 0 or 13, day 0 or 32, … -/
theorem lit_rejects_invalid (y m d : Nat) (hy1 : 1 ≤ y) (hy : y ≤ 9999) (hm : m < 100) (hd : d < 100)
    (hv : validDate y m d = false) : litParseDate (fmtYmd (y : Int) m d) = none := by
  rw [litParseDate_fmt y m d (by omega) hm hd, lit_valid_iff y m d hy1, hv]
  rfl

/-- the same two statements for CAST(text AS DATE) (predicate.rs) -/
theorem cast_parse_canonical (y m d : Nat) (hy : y ≤ 9999) (hv : validDate y m d = true) :
    castParseDate (fmtYmd (y : Int) m d) = some (((daysFromCivil y m d : Nat) : Int) - 719163) := by
  obtain ⟨hy1, hm1, hm2, hd1, hd2⟩ := validDate_bounds hv
  rw [castParseDate_fmt y m d (by omega) (by omega) (by omega), litDateOk_of_valid y m d hv,
    default_eq_spec y m d hy1 hm1 hm2 (by omega)]
  rfl

theorem cast_rejects_invalid (y m d : Nat) (hy1 : 1 ≤ y) (hy : y ≤ 9999) (hm : m < 100) (hd : d < 100)
    (hv : validDate y m d = false) : castParseDate (fmtYmd (y : Int) m d) = none := by
  rw [castParseDate_fmt y m d (by omega) hm hd, lit_valid_iff y m d hy1, hv]
  rfl

/-- render (parse s) = s for every canonical DATE text of years 1..9999 (parser of literal.rs, renderer
of cli/table.rs) -/
theorem date_render_parse (y m d : Nat) (hy : y ≤ 9999) (hv : validDate y m d = true) :
    (litParseDate (fmtYmd (y : Int) m d)).map cliFormatDate = some (fmtYmd (y : Int) m d) := by
  obtain ⟨hy1, hm1, hm2, hd1, hd2⟩ := validDate_bounds hv
  rw [litParseDate_fmt y m d (by omega) (by omega) (by omega), litDateOk_of_valid y m d hv]
  simp only [if_true, Option.map_some]
  unfold cliFormatDate
  rw [cli_inverse_lit y m d hv]

/-- DEFAULT parsing (constraints/mod.rs `parse_date_default`) gives the calendar's day number on valid
canonical text … -/
theorem default_parse_canonical (y m d : Nat) (hy : y ≤ 9999) (hv : validDate y m d = true) :
    defParseDate (fmtYmd (y : Int) m d) = some (((daysFromCivil y m d : Nat) : Int) - 719163) := by
  obtain ⟨hy1, hm1, hm2, hd1, hd2⟩ := validDate_bounds hv
  rw [defParseDate_fmt y m d (by omega) (by omega) (by omega), default_eq_spec y m d hy1 hm1 hm2 (by omega)]

/-- … the analogue of `lit_rejects_invalid` for DEFAULT (NULL on every non-date) is FALSE of the code: it
performs no range check at all, -/
theorem default_accepts_all_fields (y m d : Nat) (hy : y ≤ 9999) (hm : m < 100) (hd : d < 100) :
    defParseDate (fmtYmd (y : Int) m d) = some (defDaysFromYmd (y : Int) m d) :=
  defParseDate_fmt y m d (by omega) hm hd

/-- … witness: DEFAULT '2023-02-30' is accepted and denotes the same day as 2023-03-02 -/
theorem default_rejects_invalid_counterexample :
    validDate 2023 2 30 = false ∧
    defParseDate [50, 48, 50, 51, 45, 48, 50, 45, 51, 48] = some 19418 ∧
    defParseDate [50, 48, 50, 51, 45, 48, 51, 45, 48, 50] = some 19418 ∧
    litParseDate [50, 48, 50, 51, 45, 48, 50, 45, 51, 48] = none := by
  decide

/-- TIME: `parse_time` on canonical `HH:MM:SS` gives the micro-second count, and `format_time` renders it
back -/
theorem time_parse_canonical (h m s : Nat) (hh : h < 24) (hm : m < 60) (hs : s < 60) :
    litParseTime (fmtHms (h : Int) (m : Int) (s : Int))
      = some (((h : Int) * 3600 + (m : Int) * 60 + (s : Int)) * 1000000) ∧
    cliFormatTime (((h : Int) * 3600 + (m : Int) * 60 + (s : Int)) * 1000000)
      = fmtHms (h : Int) (m : Int) (s : Int) := by
  constructor
  · rw [litParseTime_fmt h m s (by omega) (by omega) (by omega), if_neg (by omega), if_neg (by omega),
      if_neg (by omega)]
  · exact cliFormatTime_hms h m s hm hs

/-- 24:00:00, 23:60:00, 23:59:60 … are rejected -/
theorem time_rejects_invalid (h m s : Nat) (hh : h < 100) (hm : m < 100) (hs : s < 100)
    (hbad : 24 ≤ h ∨ 60 ≤ m ∨ 60 ≤ s) : litParseTime (fmtHms (h : Int) (m : Int) (s : Int)) = none := by
  rw [litParseTime_fmt h m s hh hm hs]
  repeat' split
  all_goals first | rfl | omega

/-- DEFAULT time parsing does not range-check either (witness) -/
theorem default_time_rejects_invalid_counterexample :
    defParseTime [50, 52, 58, 48, 48, 58, 48, 48] = some 86400000000 ∧
    litParseTime [50, 52, 58, 48, 48, 58, 48, 48] = none := by
  decide

/-- TIMESTAMP literal = days · 86 400 · 10^6 + time of day -/
theorem timestamp_value (y mo d h mi s : Nat) (hy : y ≤ 9999) (hv : validDate y mo d = true)
    (hh : h < 24) (hmi : mi < 60) (hs : s < 60) :
    litParseTimestamp (fmtYmd (y : Int) mo d ++ [32] ++ fmtHms (h : Int) (mi : Int) (s : Int)) =
      some ((((daysFromCivil y mo d : Nat) : Int) - 719163) * (86400 * 1000000)
        + ((h : Int) * 3600 + (mi : Int) * 60 + (s : Int)) * 1000000) := by
  obtain ⟨hy1, hm1, hm2, hd1, hd2⟩ := validDate_bounds hv
  rw [litParseTimestamp_fmt y mo d h mi s (by omega) (by omega) (by omega) (by omega) (by omega) (by omega),
    lit_parse_canonical y mo d hy hv, (time_parse_canonical h mi s hh hmi hs).1]
  rfl

/-- render (parse s) = s for canonical TIMESTAMP text — PARTIAL: only from 1970-01-01 on.
Full statement (false of the code, see the counterexample): the same for every year 1..9999. -/
theorem timestamp_render_parse_partial (y mo d h mi s : Nat) (hy0 : 1970 ≤ y) (hy : y ≤ 9999)
    (hv : validDate y mo d = true) (hh : h < 24) (hmi : mi < 60) (hs : s < 60) :
    (litParseTimestamp (fmtYmd (y : Int) mo d ++ [32] ++ fmtHms (h : Int) (mi : Int) (s : Int))).map
      cliFormatTimestamp
      = some (fmtYmd (y : Int) mo d ++ [32] ++ fmtHms (h : Int) (mi : Int) (s : Int)) := by
  obtain ⟨hy1, hm1, hm2, hd1, hd2⟩ := (validDate_iff y mo d).1 hv
  rw [timestamp_value y mo d h mi s hy hv hh hmi hs]
  simp only [Option.map_some]
  have hge : 719163 ≤ daysFromCivil y mo d := by
    unfold daysFromCivil
    have := daysUpToYear_mono (show 1969 ≤ y - 1 by omega)
    rw [daysUpToYear_1969] at this
    omega
  have hm := cliFormatTimestamp_hms (((daysFromCivil y mo d : Nat) : Int) - 719163) h mi s (by omega) hh hmi hs
  unfold microsPerDay at hm
  rw [hm]
  dsimp only
  rw [cliJdnToYmd_civil y mo d hv]

/-- witness that the full statement fails: the literal '1969-12-31 23:59:59' parses to -1 000 000 µs
(correct) and is rendered as '1970-01-01 00:00:01' -/
theorem timestamp_render_parse_counterexample :
    litParseTimestamp [49, 57, 54, 57, 45, 49, 50, 45, 51, 49, 32, 50, 51, 58, 53, 57, 58, 53, 57] = some (-1000000) ∧
    cliFormatTimestamp (-1000000) = [49, 57, 55, 48, 45, 48, 49, 45, 48, 49, 32, 48, 48, 58, 48, 48, 58, 48, 49] := by
  decide

/-- datetime.rs `format_unix_timestamp` (NOW(), CURRENT_DATE) is NOT a calendar inverse: on 2024-02-29
(day 19782) its `u32` subtraction underflows (panic in the dev profile), and 2000-02-29 (day 11016) is
rendered as March 1, whereas `days_to_date` and `jdn_to_ymd` are correct there -/
theorem unix_timestamp_civil_counterexample :
    fnCivilFromUnixDays 19782 = none ∧
    fnCivilFromUnixDays 11016 = some (2000, 3, 1) ∧
    cliJdnToYmd (2440588 + 19782) = (2024, 2, 29) ∧
    cliJdnToYmd (2440588 + 11016) = (2000, 2, 29) ∧
    fnDaysToDate (19782 + 719163) = (2024, 2, 29) := by
  decide

/-- `format_unix_timestamp`'s date part inverts the calendar — PARTIAL: on every calendar date of every year
≥ 1 EXCEPT February 29.  Full statement (false of the code, see `unix_timestamp_civil_counterexample`):
the same without the `¬ (m = 2 ∧ d = 29)` hypothesis. -/
theorem unix_timestamp_civil_partial (y m d : Nat) (hv : validDate y m d = true)
    (hnot : ¬ (m = 2 ∧ d = 29)) :
    fnCivilFromUnixDays (((daysFromCivil y m d : Nat) : Int) - 719163) = some ((y : Int), m, d) := by
  obtain ⟨C, t, k, E, h⟩ := marchDate y m d hv
  exact fnCivil_marchDate h hnot

/-- non-vacuity: the hypotheses are satisfiable (a leap day) -/
example : validDate 2024 2 29 = true := by decide
example : validDate 2023 2 29 = false := by decide
example : litDateToDays 2024 2 29 = 19782 := by decide

end TurVerif.C41
