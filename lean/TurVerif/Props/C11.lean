import TurVerif.Model.Toast
/-!
C11  Every stored value reads back unchanged — the TOAST link of the chain.
Theorems about the M-code model `TurVerif.Toast` (src/storage/toast.rs, src/database/toast.rs,
the toasting loop of src/database/dml/insert.rs, `OwnedValue::from_record_column`,
`Database::detoast_rows`).
-/
namespace TurVerif.C11
open TurVerif.Toast

/-! ### chunking -/

theorem chunksF_cons (n f : Nat) (a : Nat) (t : List Nat) :
    chunksF n (f + 1) (a :: t) = (a :: t).take n :: chunksF n f ((a :: t).drop n) := rfl

theorem chunksF_flatten (n : Nat) (hn : 0 < n) :
    ∀ (f : Nat) (l : List Nat), l.length ≤ f → (chunksF n f l).flatten = l := by
  intro f
  induction f with
  | zero => intro l h; rw [List.length_eq_zero_iff.mp (Nat.le_zero.mp h)]; rfl
  | succ f ih =>
    intro l h
    cases l with
    | nil => rfl
    | cons a t =>
      rw [chunksF_cons, List.flatten_cons,
        ih _ (by simp only [List.length_drop, List.length_cons] at h ⊢; omega), List.take_append_drop]

theorem ceilDiv_step (n len : Nat) (hn : 0 < n) (hl : 0 < len) :
    (len - n + (n - 1)) / n + 1 = (len + (n - 1)) / n := by
  by_cases hle : len ≤ n
  · rw [show len - n = 0 by omega, Nat.zero_add, Nat.div_eq_of_lt (by omega), Nat.zero_add]
    exact (Nat.div_eq_of_lt_le (by omega) (by omega)).symm
  · rw [show len + (n - 1) = (len - n + (n - 1)) + n by omega, Nat.add_div_right _ hn]

theorem chunksF_length (n : Nat) (hn : 0 < n) :
    ∀ (f : Nat) (l : List Nat), l.length ≤ f → (chunksF n f l).length = (l.length + (n - 1)) / n := by
  intro f
  induction f with
  | zero =>
    intro l h
    rw [List.length_eq_zero_iff.mp (Nat.le_zero.mp h)]
    exact (Nat.div_eq_of_lt (by simp; omega)).symm
  | succ f ih =>
    intro l h
    cases l with
    | nil => exact (Nat.div_eq_of_lt (by simp; omega)).symm
    | cons a t =>
      rw [chunksF_cons, List.length_cons,
        ih _ (by simp only [List.length_drop, List.length_cons] at h ⊢; omega), List.length_drop]
      exact ceilDiv_step n _ hn (Nat.succ_pos _)

theorem chunksF_all_le (n : Nat) (hn : 0 < n) :
    ∀ (f : Nat) (l : List Nat), ∀ c ∈ chunksF n f l, c.length ≤ n ∧ c ≠ [] := by
  intro f
  induction f with
  | zero => intro l c hc; cases hc
  | succ f ih =>
    intro l c hc
    cases l with
    | nil => cases hc
    | cons a t =>
      rcases List.mem_cons.mp hc with rfl | hc
      · exact ⟨List.length_take_le .., by cases n with | zero => omega | succ m => simp⟩
      · exact ih _ c hc

/-- `data.chunks(n)` concatenates back to `data` (every length, every chunk size > 0). -/
theorem chunks_flatten (n : Nat) (hn : 0 < n) (l : List Nat) : (chunks n l).flatten = l :=
  chunksF_flatten n hn l.length l (Nat.le_refl _)

/-- chunk count formula: the number of chunks written is `chunk_count(len)` = ⌈len / 4000⌉, the
number `detoast_value` reads. -/
theorem chunk_count_formula (l : List Nat) :
    (chunks TOAST_CHUNK_SIZE l).length = chunkCount l.length := by
  unfold chunks chunkCount
  exact chunksF_length TOAST_CHUNK_SIZE (by decide) l.length l (Nat.le_refl _)

/-- every chunk is non-empty and at most `TOAST_CHUNK_SIZE` bytes -/
theorem chunks_bounded (l : List Nat) :
    ∀ c ∈ chunks TOAST_CHUNK_SIZE l, c.length ≤ TOAST_CHUNK_SIZE ∧ c ≠ [] :=
  chunksF_all_le TOAST_CHUNK_SIZE (by decide) l.length l

/-! ### byte codecs -/

theorem leVal_leBytes (k : Nat) : ∀ v : Nat, leVal (leBytes k v) = v % 256 ^ k := by
  induction k with
  | zero => intro v; simp [leBytes, leVal, Nat.mod_one]
  | succ k ih =>
    intro v
    simp only [leBytes, leVal, ih]
    rw [Nat.pow_succ', Nat.mod_mul]

theorem leBytes_length (k : Nat) : ∀ v : Nat, (leBytes k v).length = k := by
  induction k with
  | zero => intro v; simp [leBytes]
  | succ k ih => intro v; simp [leBytes, ih]

theorem leBytes_injective (k : Nat) (a b : Nat) (ha : a < 256 ^ k) (hb : b < 256 ^ k)
    (h : leBytes k a = leBytes k b) : a = b := by
  have := congrArg leVal h
  rw [leVal_leBytes, leVal_leBytes, Nat.mod_eq_of_lt ha, Nat.mod_eq_of_lt hb] at this
  exact this

/-- `take`/`drop` of the encoded pointer body -/
theorem decode_encode (p : Pointer) (hs : p.totalSize < 256 ^ 8) (hc : p.chunkId < 256 ^ 8) :
    Pointer.decode p.encode = some p := by
  have l1 := leBytes_length 8 p.totalSize
  have l2 := leBytes_length 8 p.chunkId
  have ht : List.take 8 (leBytes 8 p.totalSize ++ leBytes 8 p.chunkId) = leBytes 8 p.totalSize := by
    rw [List.take_append_of_le_length (by omega), List.take_of_length_le (by omega)]
  have hd : List.drop 8 (leBytes 8 p.totalSize ++ leBytes 8 p.chunkId) = leBytes 8 p.chunkId := by
    rw [List.drop_append_of_le_length (by omega), List.drop_of_length_le (by omega), List.nil_append]
  have hlen : ¬ (Pointer.encode p).length < TOAST_POINTER_SIZE := by
    simp [Pointer.encode, TOAST_POINTER_SIZE, l1, l2]
  unfold Pointer.decode
  rw [if_neg hlen]
  simp only [Pointer.encode, if_true, ht, hd, List.take_of_length_le (Nat.le_of_eq l2),
    leVal_leBytes, Nat.mod_eq_of_lt hs, Nat.mod_eq_of_lt hc]

/-- the 17-byte pointer decodes to what was encoded (sizes and ids below 2^64) -/
theorem pointer_roundtrip (p : Pointer) (hs : p.totalSize < 256 ^ 8) (hc : p.chunkId < 256 ^ 8) :
    Pointer.decode p.encode = some p := decode_encode p hs hc

/-- the 12-byte chunk key is injective on (u64 chunk id, u32 sequence number) -/
theorem chunkKey_injective (c1 s1 c2 s2 : Nat) (h1 : c1 < 256 ^ 8) (h2 : c2 < 256 ^ 8)
    (h3 : s1 < 256 ^ 4) (h4 : s2 < 256 ^ 4) (h : chunkKey c1 s1 = chunkKey c2 s2) :
    c1 = c2 ∧ s1 = s2 := by
  unfold chunkKey beBytes at h
  have hl : (leBytes 8 c1).reverse.length = (leBytes 8 c2).reverse.length := by
    simp [leBytes_length]
  have := List.append_inj h hl
  constructor
  · exact leBytes_injective 8 c1 c2 h1 h2 (List.reverse_inj.mp this.1)
  · exact leBytes_injective 4 s1 s2 h3 h4 (List.reverse_inj.mp this.2)

/-! ### the chunk store -/

theorem Store.insert_some {st st1 : Store} {k : Nat × Nat} {v : List Nat}
    (h : st.insert k v = some st1) : st.get k = none ∧ st1 = (k, v) :: st := by
  unfold Store.insert at h
  split at h
  · cases h
  · cases h; exact ⟨‹_›, rfl⟩

theorem get_insertChunks_lt (cid : Nat) :
    ∀ (cs : List (List Nat)) (j : Nat) (st st' : Store) (i : Nat),
      insertChunks cid j cs st = some st' → i < j → st'.get (cid, i) = st.get (cid, i) := by
  intro cs j st st' i
  fun_induction insertChunks cid j cs st with
  | case1 => intro h _; cases h; rfl
  | case2 => intro h; cases h
  | case3 j c cs st st1 hins ih =>
    intro h hij
    obtain ⟨_, rfl⟩ := Store.insert_some hins
    rw [ih h (by omega)]
    exact if_neg (by simp; omega)

theorem collect_insertChunks (cid : Nat) :
    ∀ (cs : List (List Nat)) (i : Nat) (st st' : Store),
      insertChunks cid i cs st = some st' → collect st' cid i cs.length = some cs.flatten := by
  intro cs i st st'
  fun_induction insertChunks cid i cs st with
  | case1 => intro _; rfl
  | case2 => intro h; cases h
  | case3 i c cs st st1 hins ih =>
    intro h
    obtain ⟨_, rfl⟩ := Store.insert_some hins
    have hget : st'.get (cid, i) = some c :=
      (get_insertChunks_lt cid cs (i + 1) _ st' i h (Nat.lt_succ_self i)).trans (if_pos rfl)
    simp only [List.length_cons, collect, hget, ih h, Option.map_some, List.flatten_cons]

theorem insertChunks_fresh (cid : Nat) :
    ∀ (cs : List (List Nat)) (i : Nat) (st : Store),
      (∀ j, i ≤ j → st.get (cid, j) = none) → ∃ st', insertChunks cid i cs st = some st' := by
  intro cs i st
  fun_induction insertChunks cid i cs st with
  | case1 => exact fun _ => ⟨_, rfl⟩
  | case2 i c cs st hins => intro hfresh; simp [Store.insert, hfresh i (Nat.le_refl i)] at hins
  | case3 i c cs st st1 hins ih =>
    intro hfresh
    obtain ⟨_, rfl⟩ := Store.insert_some hins
    exact ih fun j hj => (if_neg (by simp; omega)).trans (hfresh j (by omega))

/-! ### toast, then detoast -/

/-- HEADLINE `detoast_toast = id`: toasting `data` (any length below 2^64) into a TOAST store that
holds no chunk of this (row, column) succeeds, and detoasting the returned pointer in the
resulting store gives back exactly `data`. -/
theorem detoast_toast (st : Store) (rowId colIdx : Nat) (data : List Nat)
    (hlen : data.length < 256 ^ 8) (hid : chunkId rowId colIdx < 256 ^ 8)
    (hfresh : ∀ j, st.get (chunkId rowId colIdx, j) = none) :
    ∃ p st', toastValue st rowId colIdx data = some (p, st') ∧
      detoastValue st' p.encode = some data := by
  obtain ⟨st', hst⟩ := insertChunks_fresh (chunkId rowId colIdx) (chunks TOAST_CHUNK_SIZE data) 0 st
    (fun j _ => hfresh j)
  refine ⟨⟨data.length, chunkId rowId colIdx⟩, st', ?_, ?_⟩
  · simp [toastValue, hst]
  · unfold detoastValue
    rw [pointer_roundtrip ⟨data.length, chunkId rowId colIdx⟩ hlen hid]
    have hc := collect_insertChunks (chunkId rowId colIdx) (chunks TOAST_CHUNK_SIZE data) 0 st st' hst
    rw [chunk_count_formula] at hc
    simp only [hc, Option.map_some, chunks_flatten TOAST_CHUNK_SIZE (by decide) data,
      List.take_length]

/-- a second toast under the same chunk id fails ("key already exists"): the M-code reason why
UPDATE (chunk id from the primary-key value) and INSERT (chunk id from the internal row id)
must not share numbers. -/
theorem toast_collision (st : Store) (rowId colIdx : Nat) (data : List Nat) (c : List Nat)
    (hne : data ≠ []) (hold : st.get (chunkId rowId colIdx, 0) = some c) :
    toastValue st rowId colIdx data = none := by
  cases data with
  | nil => exact absurd rfl hne
  | cons a t => simp [toastValue, chunks, chunksF_cons, insertChunks, Store.insert, hold]

/-! ### the TEXT / BLOB write-read chain -/

theorem isToastPointer_encode (p : Pointer) : isToastPointer p.encode = true := by
  simp [isToastPointer, Pointer.encode, leBytes_length, TOAST_POINTER_SIZE]

theorem validUtf8_cons_ascii (a : Nat) (t : List Nat) (ha : a < 128) :
    validUtf8 (a :: t) = validUtf8 t := by
  match t with
  | [] => simp [validUtf8, ha]
  | [b] => simp [validUtf8, ha]
  | b :: c :: t' => rw [validUtf8.eq_def]; simp [ha]

/-- ASCII text is valid UTF-8 -/
theorem validUtf8_ascii (l : List Nat) (h : ∀ b ∈ l, b < 128) : validUtf8 l = true := by
  induction l with
  | nil => rfl
  | cons a t ih =>
    rw [validUtf8_cons_ascii a t (h a (List.mem_cons_self ..))]
    exact ih fun b hb => h b (List.mem_cons_of_mem _ hb)

theorem validUtf8_marker (t : List Nat) : validUtf8 (254 :: t) = false := by
  match t with
  | [] => simp [validUtf8]
  | [b1] => simp [validUtf8]
  | [b1, b2] => simp [validUtf8]
  | b1 :: b2 :: b3 :: t' => simp [validUtf8]

theorem not_pointer_of_validUtf8 (s : List Nat) (h : validUtf8 s = true) : isToastPointer s = false := by
  cases s with
  | nil => simp [isToastPointer, TOAST_POINTER_SIZE]
  | cons a t =>
    by_cases ha : a = 254
    · subst ha; rw [validUtf8_marker] at h; exact absurd h (by simp)
    · simp [isToastPointer, TOAST_MARKER, ha]

theorem writeCol_toasted (st st' : Store) (rowId colIdx : Nat) (v : Val) (p : Pointer)
    (hbig : v.bytes.length > TOAST_THRESHOLD)
    (h : toastValue st rowId colIdx v.bytes = some (p, st')) :
    writeCol st rowId colIdx v = some (p.encode, st') := by
  have hn : needsToast v.bytes = true := decide_eq_true hbig
  simp only [writeCol, hn, if_true, h, Option.map_some]

/-- a stored pointer is followed, and the type of what comes back is decided by UTF-8 validity -/
theorem readCol_pointer (st : Store) (ty : ColTy) (p : Pointer) (d : List Nat)
    (h : detoastValue st p.encode = some d) :
    readCol st ty p.encode = some (if validUtf8 d then Val.text d else Val.blob d) := by
  simp only [readCol, isToastPointer_encode, if_true, h]
  split <;> rfl

/-- what the chain returns for a value above the threshold: the bytes, typed by UTF-8 validity -/
theorem roundTrip_toasted (st : Store) (rowId colIdx : Nat) (ty : ColTy) (v : Val)
    (hbig : v.bytes.length > TOAST_THRESHOLD)
    (hlen : v.bytes.length < 256 ^ 8) (hid : chunkId rowId colIdx < 256 ^ 8)
    (hfresh : ∀ j, st.get (chunkId rowId colIdx, j) = none) :
    roundTripIn st rowId colIdx ty v =
      some (if validUtf8 v.bytes then Val.text v.bytes else Val.blob v.bytes) := by
  obtain ⟨p, st', h1, h2⟩ := detoast_toast st rowId colIdx v.bytes hlen hid hfresh
  rw [roundTripIn, writeCol_toasted st st' rowId colIdx v p hbig h1]
  exact readCol_pointer st' ty p v.bytes h2

/-- what the chain returns for a value at or below the threshold that does not look like a pointer -/
theorem roundTrip_inline (st : Store) (rowId colIdx : Nat) (ty : ColTy) (v : Val)
    (hsmall : v.bytes.length ≤ TOAST_THRESHOLD) (hnp : isToastPointer v.bytes = false) :
    roundTripIn st rowId colIdx ty v =
      some (match ty with | .text => Val.text v.bytes | .blob => Val.blob v.bytes) := by
  have hn : needsToast v.bytes = false := by simp [needsToast]; exact hsmall
  simp only [roundTripIn, writeCol, hn, readCol]
  cases ty <;> simp [hnp]

/-- TEXT part of DESIGN §5.C11's `chain_roundtrip_partial`: every valid-UTF-8 text of every length (< 2^64) written to a
TEXT column reads back as the same TEXT. -/
theorem text_roundtrip (st : Store) (rowId colIdx : Nat) (s : List Nat)
    (hutf : validUtf8 s = true) (hlen : s.length < 256 ^ 8) (hid : chunkId rowId colIdx < 256 ^ 8)
    (hfresh : ∀ j, st.get (chunkId rowId colIdx, j) = none) :
    roundTripIn st rowId colIdx .text (.text s) = some (.text s) := by
  by_cases hbig : s.length > TOAST_THRESHOLD
  · rw [roundTrip_toasted st rowId colIdx .text (.text s) hbig hlen hid hfresh]
    simp [Val.bytes, hutf]
  · rw [roundTrip_inline st rowId colIdx .text (.text s) (by simp [Val.bytes]; omega)
      (not_pointer_of_validUtf8 s hutf)]
    rfl

/-- BLOB part of DESIGN §5.C11's `chain_roundtrip_partial`: a blob reads back as the same BLOB when it is inline and does
not have the shape of a TOAST pointer, or is toasted and is not valid UTF-8. -/
theorem blob_roundtrip_partial (st : Store) (rowId colIdx : Nat) (b : List Nat)
    (hdom : (b.length ≤ TOAST_THRESHOLD ∧ isToastPointer b = false) ∨
            (b.length > TOAST_THRESHOLD ∧ validUtf8 b = false))
    (hlen : b.length < 256 ^ 8) (hid : chunkId rowId colIdx < 256 ^ 8)
    (hfresh : ∀ j, st.get (chunkId rowId colIdx, j) = none) :
    roundTripIn st rowId colIdx .blob (.blob b) = some (.blob b) := by
  rcases hdom with ⟨h1, h2⟩ | ⟨h1, h2⟩
  · rw [roundTrip_inline st rowId colIdx .blob (.blob b) (by simpa [Val.bytes] using h1) h2]
    rfl
  · rw [roundTrip_toasted st rowId colIdx .blob (.blob b) (by simpa [Val.bytes] using h1) hlen hid hfresh]
    simp [Val.bytes, h2]

/-- the full statement is false for BLOB: EVERY blob above the threshold whose bytes are valid
UTF-8 comes back as TEXT (`detoast_rows` re-derives the type from UTF-8 validity). -/
theorem blob_utf8_returns_text (st : Store) (rowId colIdx : Nat) (b : List Nat)
    (hbig : b.length > TOAST_THRESHOLD) (hutf : validUtf8 b = true)
    (hlen : b.length < 256 ^ 8) (hid : chunkId rowId colIdx < 256 ^ 8)
    (hfresh : ∀ j, st.get (chunkId rowId colIdx, j) = none) :
    roundTripIn st rowId colIdx .blob (.blob b) = some (.text b) := by
  rw [roundTrip_toasted st rowId colIdx .blob (.blob b) (by simpa [Val.bytes] using hbig) hlen hid hfresh]
  simp [Val.bytes, hutf]

/-- concrete witness: 1001 bytes 'a' written as BLOB read back as TEXT -/
theorem blob_utf8_counterexample :
    roundTrip 1 1 .blob (.blob (List.replicate 1001 97)) = some (.text (List.replicate 1001 97)) ∧
    roundTrip 1 1 .blob (.blob (List.replicate 1001 97)) ≠ some (.blob (List.replicate 1001 97)) := by
  have h : roundTrip 1 1 .blob (.blob (List.replicate 1001 97)) = some (.text (List.replicate 1001 97)) := by
    apply blob_utf8_returns_text [] 1 1 (List.replicate 1001 97)
    · show TOAST_THRESHOLD < (List.replicate 1001 97).length
      rw [List.length_replicate]; decide
    · exact validUtf8_ascii _ fun b hb => List.eq_of_mem_replicate hb ▸ by decide
    · rw [List.length_replicate]; decide
    · decide
    · intro j; rfl
  exact ⟨h, by rw [h]; exact fun e => Val.noConfusion (Option.some.inj e)⟩

/-- concrete witness: an inline 17-byte blob starting with 0xFE is read as a TOAST pointer; with a
zero size field it comes back as the empty TEXT, with a non-zero size field the read fails. -/
theorem fake_pointer_counterexample :
    roundTrip 1 1 .blob (.blob (254 :: List.replicate 16 0)) = some (.text []) ∧
    roundTrip 1 1 .blob (.blob (254 :: 5 :: List.replicate 15 0)) = none := by
  constructor <;> decide

/-- non-vacuity of the partial theorems' hypotheses -/
example : validUtf8 [104, 105] = true ∧ ([104, 105] : List Nat).length < 256 ^ 8 ∧
    chunkId 1 1 < 256 ^ 8 ∧ (∀ j, Store.get [] (chunkId 1 1, j) = none) :=
  ⟨by decide, by decide, by decide, fun _ => rfl⟩

end TurVerif.C11
