import TurVerif.Lemmas.SieveGoi
import TurVerif.Lemmas.ListSet
import TurVerif.Lemmas.Run
import TurVerif.Model.CacheMiss
/-!
C35  The page cache never evicts pinned pages or mixes contents; shards respect their capacity;
budget accounting.

Theorems about the M-code model `TurVerif.Sieve` (transcribed from src/storage/cache.rs and the
`Pool::Cache` part of src/memory/budget.rs).  Every public call is one atomic model step (see the
header of Model/Sieve.lean for the reading of the locking that justifies it), so a statement
"for every state satisfying the invariant, after any call …" covers every interleaving of any
number of threads.  `CInv` is the invariant (64 shards, each with unique keys, index = vector, hand in
range, len ≤ capacity); it holds initially and is preserved by `get_or_insert`, `get`, `unpin` and
`write` (`cinv_reachable`); `clear` and `evict_all_unpinned` are not covered.
-/
namespace TurVerif.C35
open TurVerif.Sieve

def CInv (c : Cache) : Prop := c.shards.length = SHARD_COUNT ∧ ∀ sh ∈ c.shards, Good sh

/-- budget accounting: the cache pool holds exactly 16 KiB per cached page -/
def BInv (c : Cache) : Prop := ∀ bb, c.budget = some bb → bb.cacheUsed = PAGE_SIZE * c.len

theorem shardIndex_lt (k : Key) : shardIndex k < SHARD_COUNT := Nat.mod_lt _ (by decide)

theorem shard_eq {c : Cache} {i : Nat} (h : i < c.shards.length) :
    c.shards[i]? = some (c.shard i) := by
  unfold Cache.shard
  rw [List.getD_eq_getElem?_getD, List.getElem?_eq_getElem h]
  rfl

theorem CInv.index_lt {c : Cache} (h : CInv c) (k : Key) : shardIndex k < c.shards.length :=
  h.1 ▸ shardIndex_lt k

theorem CInv.good {c : Cache} (h : CInv c) (k : Key) : Good (c.shard (shardIndex k)) :=
  h.2 _ (List.mem_of_getElem? (shard_eq (h.index_lt k)))

theorem cinv_setShard {c : Cache} {i : Nat} {sh : Shard} (b : Option Budget) (h : CInv c)
    (hg : Good sh) : CInv { (c.setShard i sh) with budget := b } := by
  refine ⟨by simp [Cache.setShard, h.1], ?_⟩
  intro x hx
  simp only [Cache.setShard] at hx
  rcases List.mem_or_eq_of_mem_set hx with h1 | h1
  · exact h.2 x h1
  · rw [h1]; exact hg

theorem shard_setShard {c : Cache} {i j : Nat} {sh : Shard} (h : i < c.shards.length) :
    (c.setShard i sh).shard j = if j = i then sh else c.shard j := by
  unfold Cache.shard Cache.setShard
  simp only [List.getD_eq_getElem?_getD, List.getElem?_set]
  by_cases hji : j = i
  · subst hji; simp [h]
  · simp [hji, Ne.symm hji]

/-- the entries of shard `i` and those of all the others, which `setShard i` leaves alone -/
theorem len_setShard {c : Cache} {i : Nat} (h : i < c.shards.length) :
    ∃ others, c.len = (c.shard i).entries.length + others ∧
      ∀ sh, (c.setShard i sh).len = sh.entries.length + others := by
  have key : ∀ sh, (c.setShard i sh).len + (c.shard i).entries.length = c.len + sh.entries.length :=
    fun sh => sum_map_set _ sh (shard_eq h)
  have h0 : _ + _ = c.len + 0 := key (Shard.empty 0)
  exact ⟨(c.setShard i (Shard.empty 0)).len, (Nat.add_comm _ _).trans h0 |>.symm, fun sh => by
    have := key sh
    omega⟩

theorem len_eq_zero {c : Cache} (h : ∀ sh ∈ c.shards, sh.entries = []) : c.len = 0 :=
  List.sum_eq_zero_iff_forall_eq_nat.mpr fun n hn => by
    obtain ⟨sh, hm, rfl⟩ := List.mem_map.mp hn
    rw [h sh hm]; rfl

theorem goi_eq (c : Cache) (k : Key) (initOk : Bool) (val : Nat) :
    c.getOrInsert k initOk val =
      ({ (c.setShard (shardIndex k) (goiShard (c.shard (shardIndex k)) c.budget k initOk val).1) with
          budget := (goiShard (c.shard (shardIndex k)) c.budget k initOk val).2.1 },
        (goiShard (c.shard (shardIndex k)) c.budget k initOk val).2.2) := rfl

/-- **evict_never_pinned**: whatever `CacheShard::evict` returns as victim is the entry under the
    hand, and its pin count is 0; the loop never indexes outside the vector; it only clears
    visited flags (`Flagged`) -/
theorem evict_never_pinned {sh : Shard} (h : SInv sh) :
    Flagged sh.entries (evict sh).1.entries ∧ (evict sh).2 ≠ .oob ∧
    ∀ k d, (evict sh).2 = .victim k d →
      ∃ e : Entry, (evict sh).1.entries[(evict sh).1.hand]? = some e ∧ e.key = k ∧ e.pin = 0 :=
  have ⟨_, hf, _, hoob, hv⟩ := evict_spec h rfl
  ⟨hf, hoob, hv⟩

/-- **len_le_cap** and **index_consistent**: the invariant (unique keys, index = vector, hand in
    range, every shard within its capacity) survives `get_or_insert`, whatever its outcome -/
theorem len_le_cap {c : Cache} (k : Key) (initOk : Bool) (val : Nat) (h : CInv c) :
    CInv (c.getOrInsert k initOk val).1 :=
  cinv_setShard _ h (goiShard_spec _ k initOk val (h.good k)).1

/-- the same with `CInv` unfolded -/
theorem index_consistent {c : Cache} (k : Key) (initOk : Bool) (val : Nat) (h : CInv c) :
    ∀ sh ∈ (c.getOrInsert k initOk val).1.shards,
      sh.entries.length ≤ sh.cap ∧
      (∀ (q : Key) (i : Nat), alFind sh.index q = some i ↔ ∃ e : Entry, sh.entries[i]? = some e ∧ e.key = q) ∧
      (∀ (i j : Nat) (e1 e2 : Entry), sh.entries[i]? = some e1 → sh.entries[j]? = some e2 →
        e1.key = e2.key → i = j) :=
  fun sh hm =>
    have g := (len_le_cap k initOk val h).2 sh hm
    ⟨g.2, g.1.idx, g.1.uniq⟩

/-- **pinned pages are never evicted, and keep their contents** (`data_last_written` for every call
    other than a write to that key): any entry with `pin > 0` in any shard is still there after
    `get_or_insert` of any key, with the same data and a pin count that has not dropped -/
theorem data_last_written {c : Cache} (k : Key) (initOk : Bool) (val : Nat) (h : CInv c)
    (j : Nat) (hj : j < SHARD_COUNT) :
    ∀ e ∈ (c.shard j).entries, 0 < e.pin →
      ∃ e' ∈ ((c.getOrInsert k initOk val).1.shard j).entries,
        e'.key = e.key ∧ e'.data = e.data ∧ e.pin ≤ e'.pin := by
  show PinnedKept _ ((c.setShard (shardIndex k) _).shard j).entries
  rw [shard_setShard (h.index_lt k)]
  split
  · subst_vars; exact (goiShard_spec _ k initOk val (h.good k)).2.1
  · exact .refl _

/-- a written page reads back what was written -/
theorem read_after_write {c : Cache} (k : Key) (v : Nat) (h : CInv c) (e : Entry)
    (he : c.findEntry k = some e) : (c.write k v).read k = some v := by
  simp only [Cache.findEntry] at he
  simp only [Cache.write, Cache.updEntry, Cache.read, Cache.findEntry]
  split at he
  · rename_i idx hf
    simp only [hf, he, shard_setShard (h.index_lt k), if_true,
      List.getElem?_set_self (List.getElem?_eq_some_iff.mp he).1, Option.map_some]
  · cases he

/-- what `get_or_insert` does to exact accounting, whatever its outcome (the model's `broken`
    outcomes apart): the pool is charged for every cached page, and for one more after a failing
    `init` -/
theorem budget_getOrInsert {c : Cache} {k : Key} {initOk : Bool} {val : Nat} {r : Cache × GRes}
    (hr : c.getOrInsert k initOk val = r) (h : CInv c) (hb : BInv c)
    (hbr : ∀ w, r.2 ≠ .broken w) :
    ∀ bb, r.1.budget = some bb → bb.cacheUsed = PAGE_SIZE * r.1.len + leaked r.2 := by
  subst hr
  rw [goi_eq] at hbr ⊢
  obtain ⟨others, hlen, hset⟩ := len_setShard (h.index_lt k)
  have ho := (goiShard_spec _ k initOk val (h.good k)).2.2 (PAGE_SIZE * others)
    (fun bb hbb => by rw [hb bb hbb, hlen, Nat.mul_add]; rfl) hbr
  intro bb hbb
  show bb.cacheUsed = PAGE_SIZE * (c.setShard (shardIndex k) _).len + _
  rw [hset, Nat.mul_add, ho bb hbb, Nat.add_assoc]

/-- **budget_eq_len_partial**: on calls whose `init` does not fail (and that do not hit one of the
    model's `broken` outcomes) `cache_used = len * PAGE_SIZE` is preserved by `get_or_insert` -/
theorem budget_eq_len_partial {c : Cache} (k : Key) (initOk : Bool) (val : Nat) (h : CInv c)
    (hb : BInv c) (hr : (c.getOrInsert k initOk val).2 ≠ .errInit)
    (hbr : ∀ w, (c.getOrInsert k initOk val).2 ≠ .broken w) :
    BInv (c.getOrInsert k initOk val).1 := fun bb hbb => by
  rw [budget_getOrInsert rfl h hb hbr bb hbb, leaked_of_ne hr]; rfl

/-- **budget returns to zero**: `clear` on a cache whose accounting is exact leaves `cache_used = 0`
    and no entry -/
theorem budget_zero_after_clear {c : Cache} (hb : BInv c) :
    (∀ bb, c.clear.budget = some bb → bb.cacheUsed = 0) ∧ c.clear.len = 0 := by
  constructor
  · intro bb h
    obtain ⟨b0, hcb, rfl⟩ := Option.map_eq_some_iff.mp h
    show b0.cacheUsed - c.len * PAGE_SIZE = 0
    rw [hb b0 hcb, Nat.mul_comm]; exact Nat.sub_self _
  · refine len_eq_zero fun sh hm => ?_
    obtain ⟨_, -, rfl⟩ := List.mem_map.mp hm
    rfl

/-- a freshly built cache satisfies the invariant and is empty (non-vacuity of `CInv`/`BInv`) -/
theorem new_inv {total : Nat} {b : Option Budget} {c : Cache} (h : Cache.new total b = some c) :
    CInv c ∧ c.len = 0 ∧ ((∀ bb, b = some bb → bb.cacheUsed = 0) → BInv c) := by
  unfold Cache.new at h
  split at h
  · cases h
  · cases h
    have hall : ∀ sh ∈ mkShards total, sh.entries = [] ∧ Good sh := fun sh hm => by
      obtain ⟨i, -, rfl⟩ := List.mem_map.mp hm
      exact ⟨rfl, sinv_empty _, Nat.zero_le _⟩
    have hlen : (Cache.mk (mkShards total) b).len = 0 := len_eq_zero fun sh hm => (hall sh hm).1
    exact ⟨⟨by simp [mkShards], fun sh hm => (hall sh hm).2⟩, hlen,
      fun hz bb hbb => by rw [hlen, hz bb hbb, Nat.mul_zero]⟩

theorem get_inv {c : Cache} (k : Key) (h : CInv c) : CInv (c.get k).1 := by
  simp only [Cache.get]
  split
  · exact cinv_setShard c.budget h (touch_spec _ (h.good k)).1
  · exact h

/-- `unpin`, `write`, `mark_dirty`, `clear_dirty` (any per-entry update that keeps the key) keep
    the invariant -/
theorem updEntry_inv {c : Cache} (k : Key) (f : Entry → Entry) (hf : ∀ e, (f e).key = e.key)
    (h : CInv c) : CInv (c.updEntry k f) := by
  simp only [Cache.updEntry]
  split
  · split
    · rename_i e he
      exact cinv_setShard c.budget h
        ⟨setEntry_sinv (h.good k).1 he (hf e), by simpa using (h.good k).2⟩
    · exact h
  · exact h

theorem unpin_inv {c : Cache} (k : Key) (h : CInv c) : CInv (c.unpin k) :=
  updEntry_inv k _ (fun _ => rfl) h
theorem write_inv {c : Cache} (k : Key) (v : Nat) (h : CInv c) : CInv (c.write k v) :=
  updEntry_inv k _ (fun _ => rfl) h

/-- the full budget statement is false of the code: a failing `init` leaves 16 KiB accounted for
    a page that is not cached -/
theorem budget_leak_counterexample :
    ∃ c c', Cache.new 64 (some ⟨4194304, 0, 0⟩) = some c ∧
      c.getOrInsert ⟨0, 0⟩ false 0 = (c', .errInit) ∧ c'.len = 0 ∧
      (c'.budget.map (·.cacheUsed)) = some 16384 ∧ (c'.clear.budget.map (·.cacheUsed)) = some 16384 := by
  refine ⟨_, _, rfl, rfl, ?_, ?_, ?_⟩ <;> decide

/-- `clear` is outside the property's operation list: it drops pinned pages too -/
theorem clear_evicts_pinned_counterexample :
    ∃ c c', Cache.new 64 none = some c ∧ c.getOrInsert ⟨0, 0⟩ true 7 = (c', .inserted) ∧
      (c'.findEntry ⟨0, 0⟩).map (·.pin) = some 1 ∧ c'.clear.findEntry ⟨0, 0⟩ = none := by
  refine ⟨_, _, rfl, rfl, ?_, ?_⟩ <;> decide

/-- the calls a client can make on a cache (`clear` is excluded: it drops pinned entries, see
`clear_evicts_pinned_counterexample`) -/
inductive COp where
  | getOrInsert (k : Key) (initOk : Bool) (val : Nat)
  | get (k : Key)
  | unpin (k : Key)
  | write (k : Key) (v : Nat)

def applyOp (c : Cache) : COp → Cache
  | .getOrInsert k initOk val => (c.getOrInsert k initOk val).1
  | .get k => (c.get k).1
  | .unpin k => c.unpin k
  | .write k v => c.write k v

theorem applyOp_inv {c : Cache} (h : CInv c) : ∀ op, CInv (applyOp c op)
  | .getOrInsert k i v => len_le_cap k i v h
  | .get k => get_inv k h
  | .unpin k => unpin_inv k h
  | .write k v => write_inv k v h

/-- the structural invariant for EVERY operation sequence: starting from `PageCache::new`, after any
number of `get_or_insert` (with succeeding or failing `init`), `get`, unpin (drop of a `PageRef`)
and page writes, in any order and on any keys, every shard has unique keys, an index that is
exactly the vector, and at most `cap` entries -/
theorem cinv_reachable {total : Nat} {b : Option Budget} {c : Cache}
    (h : Cache.new total b = some c) (ops : List COp) : CInv (ops.foldl applyOp c) := by
  have h0 : CInv c := (new_inv h).1
  clear h
  induction ops generalizing c with
  | nil => exact h0
  | cons op ops ih => exact ih (applyOp_inv h0 op)

/-- … hence no shard ever exceeds its capacity, whatever the history -/
theorem len_le_cap_reachable {total : Nat} {b : Option Budget} {c : Cache}
    (h : Cache.new total b = some c) (ops : List COp) :
    ∀ sh ∈ (ops.foldl applyOp c).shards, sh.entries.length ≤ sh.cap :=
  fun sh hm => ((cinv_reachable h ops).2 sh hm).2

/-- non-vacuity: `Cache.new` succeeds -/
example : ∃ c, Cache.new 64 none = some c := ⟨_, rfl⟩

end TurVerif.C35

/-! ## The miss path of `get_or_insert` is NOT one critical section: read-locked lookup, then
write-locked re-check + insert (`TurVerif.CacheMiss`, one key, any number of threads).  The
sequential model above treats the call as atomic; these theorems are what justifies that. -/
namespace TurVerif.C35
open TurVerif.CacheMiss

theorem doneCount_set (l : List Pc) (tid : Nat) (old new : Pc) (h : l[tid]? = some old) :
    ((l.set tid new).filter (· == Pc.done)).length + (if old = Pc.done then 1 else 0)
      = (l.filter (· == Pc.done)).length + (if new = Pc.done then 1 else 0) := by
  have e : ∀ p : Pc, (if p = Pc.done then 1 else 0) = (p == Pc.done).toNat := fun p => by
    cases p <;> rfl
  rw [e, e, ← List.countP_eq_length_filter, ← List.countP_eq_length_filter]
  exact countP_set _ new h

/-- invariant of the re-checking variant: at most one entry for the key, `init` ran as often as
there are entries, and the entry's pin count is the number of threads that have returned -/
def MissInv (s : State) : Prop :=
  s.recheck = true ∧
  ((s.entries = [] ∧ doneCount s = 0 ∧ s.inits = 0) ∨ (s.entries = [doneCount s] ∧ s.inits = 1))

theorem missInv_init (n : Nat) : MissInv (CacheMiss.init true n) := by
  refine ⟨rfl, Or.inl ⟨rfl, ?_, rfl⟩⟩
  simp [doneCount, CacheMiss.init]

theorem missInv_step (s s' : State) (tid : Nat) (h : MissInv s) (hs : step s tid = some s') :
    MissInv s' := by
  obtain ⟨hr, hcase⟩ := h
  unfold step at hs
  split at hs
  · cases hs
  · -- a first lookup: misses iff nothing is cached yet
    rename_i hpc
    have hd := fun new => doneCount_set _ _ _ new hpc
    rcases hcase with ⟨he, h0, hi⟩ | ⟨he, hi⟩
    · rw [if_pos he] at hs; cases hs
      exact ⟨hr, .inl ⟨he, (hd .missed).trans h0, hi⟩⟩
    · rw [if_neg (he ▸ List.cons_ne_nil _ _), he] at hs; cases hs
      exact ⟨hr, .inr ⟨congrArg (· :: []) (hd .done).symm, hi⟩⟩
  · -- under the write lock: insert iff still nothing is cached
    rename_i hpc
    have hd := doneCount_set _ _ _ .done hpc
    rcases hcase with ⟨he, h0, hi⟩ | ⟨he, hi⟩
    · rw [if_neg (fun hc => hc.2 he), he] at hs; cases hs
      exact ⟨hr, .inr ⟨congrArg (· :: []) (hd.trans (congrArg (· + 1) h0)).symm,
        congrArg (· + 1) hi⟩⟩
    · rw [if_pos ⟨hr, he ▸ List.cons_ne_nil _ _⟩, he] at hs; cases hs
      exact ⟨hr, .inr ⟨congrArg (· :: []) hd.symm, hi⟩⟩
  · cases hs

theorem missInv_run (s : State) (sched : List Nat) (h : MissInv s) : MissInv (run s sched) :=
  Run.invariant step run (fun _ => rfl) (fun _ _ _ => rfl) (missInv_step _ _ _) sched h

/-- HEADLINE (re-check under the write lock): for every number of threads and every schedule the key
is cached at most once, `init` ran at most once, and the entry is pinned exactly once per thread
that has returned -/
theorem miss_path_single_entry (n : Nat) (sched : List Nat) :
    let s := run (CacheMiss.init true n) sched
    s.entries.length ≤ 1 ∧ s.inits ≤ 1 ∧ (∀ p ∈ s.entries, p = doneCount s) := by
  have h := missInv_run _ sched (missInv_init n)
  rcases h.2 with ⟨he, _, hi⟩ | ⟨he, hi⟩
  · simp [he, hi]
  · refine ⟨by simp [he], by simp [hi], ?_⟩
    intro p hp; rw [he] at hp; simpa using hp

/-- without the re-check two threads that both missed insert the key twice: two entries, `init`
ran twice, each entry pinned once although the index can only reach the newer one -/
theorem miss_path_without_recheck_counterexample :
    let s := run (CacheMiss.init false 2) [0, 1, 0, 1]
    s.entries = [1, 1] ∧ s.inits = 2 ∧ doneCount s = 2 := by decide

end TurVerif.C35
