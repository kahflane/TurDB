import TurVerif.Model.Budget
import TurVerif.Lemmas.BudgetPool
/-!
C39  The memory budget is a hard limit.

M-code model `TurVerif.Budget`: every atomic load / compare-exchange of `allocate` and `release`
is one step; threads interleave arbitrarily.
-/
namespace TurVerif.C39
open TurVerif.Budget

structure AccInv (s : State) : Prop where
  used : s.used.length = 5
  allocd : s.allocd.length = 5
  released : s.released.length = 5
  bal : ∀ q, s.used.getD q 0 + s.released.getD q 0 = s.allocd.getD q 0

theorem acc_init (limit : Nat) (progs : List (List Op)) : AccInv (init limit progs) := by
  refine ⟨rfl, rfl, rfl, ?_⟩
  intro q
  simp only [init]
  match q with
  | 0 | 1 | 2 | 3 | 4 => rfl
  | q + 5 => rfl

theorem acc_step (s s' : State) (tid : Nat) (h : AccInv s) (hs : step s tid = some s') :
    AccInv s' := by
  obtain ⟨h1, h2, h3, h4⟩ := h
  obtain ⟨t, _, hk⟩ := step_cases hs
  cases hk with
  | quiet => exact ⟨h1, h2, h3, h4⟩
  | allocCas p b =>
    refine ⟨List.length_set.trans h1, List.length_set.trans h2, h3, fun q => ?_⟩
    show (s.used.set p _).getD q 0 + s.released.getD q 0 = (s.allocd.set p _).getD q 0
    rw [getD_set, getD_set, h1, h2]
    split
    · rename_i hq; obtain ⟨rfl, _⟩ := hq; rw [Nat.add_right_comm, h4 p]
    · exact h4 q
  | relCas p b =>
    refine ⟨List.length_set.trans h1, h2, List.length_set.trans h3, fun q => ?_⟩
    show (s.used.set p _).getD q 0 + (s.released.set p _).getD q 0 = s.allocd.getD q 0
    rw [getD_set, getD_set, h1, h3]
    split
    · rename_i hq; obtain ⟨rfl, _⟩ := hq
      rw [Nat.add_left_comm, Nat.add_comm (_ - b), Nat.sub_add_cancel (Nat.sub_le ..), Nat.add_comm]
      exact h4 p
    · exact h4 q

def tot5 (a b c d e : Nat) : Nat := a + b + c + d + e

/-- with a single thread every value it has loaded is still current: what its local variables say
about counters `u` and limit `lim` -/
def LocalsOk (u : List Nat) (lim : Nat) : Pc → Prop
  | .idle | .aLoadPool .. | .rLoad .. => True
  | .aTot p _ cur i acc => cur = u.getD p 0 ∧ acc = psum u i
  | .aLimit p _ cur tot => cur = u.getD p 0 ∧ tot = total u
  | .aShrLimit p b cur | .aShrTot p b cur _ _ _ | .aCas p b cur =>
    cur = u.getD p 0 ∧ total u + b ≤ lim
  | .rCas p _ cur => cur = u.getD p 0

structure SeqInv (s : State) : Prop where
  len : s.used.length = 5
  tot : s.totalUsed ≤ s.limit
  one : ∃ t, s.threads = [t] ∧ LocalsOk s.used s.limit t.pc

theorem seq_step (s s' : State) (tid : Nat) (h : SeqInv s) (hs : step s tid = some s') :
    SeqInv s' := by
  obtain ⟨hl, htot, ⟨prog, pc, res⟩, hth, hpc⟩ := h
  obtain ⟨t0, ht0, hk⟩ := step_cases hs
  -- the thread that moves is the only one
  have hset : ∀ t', s.threads.set tid t' = [t'] ∧ t0 = ⟨prog, pc, res⟩ := fun t' => by
    rw [hth] at ht0 ⊢
    cases tid <;> cases ht0
    exact ⟨rfl, rfl⟩
  obtain rfl := (hset t0).2
  -- a successful CAS that raises the total by at most `d`
  have cas : ∀ {u' : List Nat} {p v d : Nat}, u' = s.used.set p v → v ≤ s.used.getD p 0 + d →
      total s.used + d ≤ s.limit → u'.length = 5 ∧ total u' ≤ s.limit :=
    fun hu hv hd => hu ▸ ⟨List.length_set.trans hl, Nat.le_trans (total_set_le hv) hd⟩
  cases hk with
  | quiet t' hloc =>
    refine ⟨hl, htot, t', (hset t').1, show LocalsOk s.used s.limit t'.pc from ?_⟩
    cases hloc with
    | allocZero hq | relZero hq => subst hq; trivial
    | allocStart | relStart | refuse | shrRefuse | casFail | rCasFail => trivial
    | loadPool hq => exact ⟨rfl, rfl⟩
    | tot hq => subst hq; exact ⟨hpc.1, by rw [psum_succ, hpc.2]⟩
    | totEnd hq hi =>
      subst hq
      exact ⟨hpc.1, psum_end hl hi hpc.2⟩
    | toShared hq hle | toCas hq hle =>
      subst hq
      exact ⟨hpc.1, hpc.2 ▸ Nat.le_of_not_lt hle⟩
    | shrLimit hq | shrTot hq | shrCas hq =>
      subst hq; exact hpc
    | rLoad hq => exact rfl
  | allocCas p b hq =>
    subst hq
    obtain ⟨h1, h2⟩ := cas rfl (Nat.le_refl _) hpc.2
    exact ⟨h1, h2, _, (hset _).1, trivial⟩
  | relCas p b hq =>
    obtain ⟨h1, h2⟩ := cas (d := 0) rfl (Nat.sub_le ..) htot
    exact ⟨h1, h2, _, (hset _).1, trivial⟩

theorem seq_init (limit : Nat) (prog : List Op) : SeqInv (init limit [prog]) :=
  ⟨rfl, Nat.zero_le _, _, rfl, trivial⟩

/-- one thread, any schedule (steps of thread ids other than 0 are skipped) -/
theorem seq_reachable (limit : Nat) (prog : List Op) (sched : List Nat) :
    SeqInv (run (init limit [prog]) sched) :=
  Run.invariant step run (fun _ => rfl) (fun _ _ _ => rfl) (seq_step _ _ _) sched
    (seq_init limit prog)

/-- ACCOUNTING (full, any number of threads, any schedule): every pool counter equals the sum of
its successful allocations minus the sum of the actual decrements of its releases — no update is
lost, and a counter whose releases add up to its allocations is back to zero. -/
theorem accounting_any_schedule (limit : Nat) (progs : List (List Op)) (sched : List Nat) (q : Nat) :
    let s := run (init limit progs) sched
    s.used.getD q 0 + s.released.getD q 0 = s.allocd.getD q 0 :=
  (Run.invariant step run (fun _ => rfl) (fun _ _ _ => rfl) (acc_step _ _ _) sched
    (acc_init limit progs)).bal q

theorem returns_to_zero (limit : Nat) (progs : List (List Op)) (sched : List Nat) (q : Nat)
    (h : (run (init limit progs) sched).released.getD q 0 = (run (init limit progs) sched).allocd.getD q 0) :
    (run (init limit progs) sched).used.getD q 0 = 0 := by
  have := accounting_any_schedule limit progs sched q
  exact Nat.add_right_cancel (this.trans (h.symm.trans (Nat.zero_add _).symm))

/-- no underflow, any schedule: per pool, the bytes released never exceed the bytes granted, and the
tracked usage never exceeds what was granted -/
theorem released_le_allocd (limit : Nat) (progs : List (List Op)) (sched : List Nat) (q : Nat) :
    (run (init limit progs) sched).released.getD q 0 ≤ (run (init limit progs) sched).allocd.getD q 0 ∧
    (run (init limit progs) sched).used.getD q 0 ≤ (run (init limit progs) sched).allocd.getD q 0 :=
  accounting_any_schedule limit progs sched q ▸ ⟨Nat.le_add_left .., Nat.le_add_right ..⟩

/-- HARD LIMIT, sequential part (full for one thread): whatever the program and however many
atomic steps have been taken, tracked usage is within the limit. -/
theorem seq_safe (limit : Nat) (prog : List Op) (n : Nat) :
    let s := run (init limit [prog]) (List.replicate n 0)
    s.totalUsed ≤ s.limit :=
  (seq_reachable limit prog _).tot

/-- HARD LIMIT, same-pool part (full: ANY number of threads, ANY schedule): if every operation of
every thread is an `alloc` on one and the same pool `p` (no releases), tracked usage never exceeds
the limit.  Reason (invariant `Budget.PoolInv`): `used[p]` is the only counter that changes and it
only grows, so a successful compare-exchange proves it was unchanged since it was loaded — the
total that was checked against the limit is still the total.  (The cross-pool race below needs two
different counters; a release would allow ABA on the single counter.) -/
theorem same_pool_alloc_only_safe (limit : Nat) (p : Nat) (progs : List (List Op))
    (hall : ∀ prog ∈ progs, ∀ op ∈ prog, ∃ b, op = .alloc p b) (sched : List Nat) :
    let s := run (init limit progs) sched
    s.totalUsed ≤ s.limit :=
  (pool_run (pool_init p limit progs hall) sched).tot

/-- a step of a thread inside `release` (`rLoad` / `rCas`) never increases any counter -/
theorem release_never_increases (s s' : State) (tid : Nat) (t : Thread)
    (hs : step s tid = some s') (ht : s.threads[tid]? = some t)
    (hpc : (∃ p b, t.pc = .rLoad p b) ∨ (∃ p b cur, t.pc = .rCas p b cur)) (q : Nat) :
    s'.used.getD q 0 ≤ s.used.getD q 0 := by
  obtain ⟨t0, ht0, hk⟩ := step_cases hs
  cases ht.symm.trans ht0
  cases hk with
  | quiet => exact Nat.le_refl _
  | allocCas p b hq => rcases hpc with ⟨_, _, h⟩ | ⟨_, _, _, h⟩ <;> cases hq.symm.trans h
  | relCas p b hq =>
    show (s.used.set p _).getD q 0 ≤ _
    rw [getD_set]
    split
    · rename_i h; obtain ⟨rfl, _⟩ := h; exact Nat.sub_le ..
    · exact Nat.le_refl _

/-- a successful allocation CAS increases exactly its pool by exactly its size, leaves every other
counter alone, and the call returns Ok -/
theorem alloc_step_exact (s s' : State) (tid : Nat) (t : Thread) (p b cur : Nat)
    (hs : step s tid = some s') (ht : s.threads[tid]? = some t) (hpc : t.pc = .aCas p b cur)
    (hc : s.used.getD p 0 = cur) (hp : p < s.used.length) :
    s'.used.getD p 0 = s.used.getD p 0 + b ∧ (∀ q, q ≠ p → s'.used.getD q 0 = s.used.getD q 0) ∧
    ∃ t', s'.threads[tid]? = some t' ∧ t'.pc = .idle ∧ t'.results = true :: t.results := by
  unfold step at hs
  simp only [ht, hpc, hc, if_true] at hs
  injection hs with hs; subst hs
  have htid : tid < s.threads.length := (List.getElem?_eq_some_iff.mp ht).1
  refine ⟨?_, ?_, { t with pc := .idle, results := true :: t.results },
    List.getElem?_set_self htid, rfl, rfl⟩
  · simp only [setThread]
    rw [getD_set, if_pos ⟨rfl, hp⟩, hc]
  · intro q hq
    simp only [setThread]
    rw [getD_set, if_neg (fun h => hq h.1.symm)]

/-- a failed allocation CAS (the counter moved since it was loaded) changes no counter and retries
from the pool load -/
theorem alloc_cas_retry (s s' : State) (tid : Nat) (t : Thread) (p b cur : Nat)
    (hs : step s tid = some s') (ht : s.threads[tid]? = some t) (hpc : t.pc = .aCas p b cur)
    (hc : s.used.getD p 0 ≠ cur) :
    s'.used = s.used ∧ ∃ t', s'.threads[tid]? = some t' ∧ t'.pc = .aLoadPool p b := by
  unfold step at hs
  simp only [ht, hpc, hc, if_false] at hs
  injection hs with hs; subst hs
  have htid : tid < s.threads.length := (List.getElem?_eq_some_iff.mp ht).1
  exact ⟨rfl, { t with pc := .aLoadPool p b }, List.getElem?_set_self htid, rfl⟩

/-- non-vacuity of `same_pool_alloc_only_safe`: three threads race on the Shared pool with the
limit at 4 MiB; all three load the same counter value and pass the check, one CAS wins, the two
losers retry, one more fits, the last is refused -/
example :
    let progs : List (List Op) := [[.alloc 4 2000000], [.alloc 4 2000000], [.alloc 4 2000000]]
    let s := run (init 4194304 progs)
      (List.replicate 8 0 ++ List.replicate 8 1 ++ List.replicate 8 2 ++ [0, 1, 2] ++
        List.replicate 9 1 ++ List.replicate 9 2)
    s.totalUsed = 4000000 ∧ s.totalUsed ≤ s.limit ∧
    (s.threads.map (·.results)) = [[true], [true], [false]] := by decide +kernel

/-- the "no releases" hypothesis of `same_pool_alloc_only_safe` is NECESSARY: on ONE pool, with a
release in between, the compare-exchange succeeds on a counter that went away and came back (ABA).
Thread 0 loads the Shared counter (2 000 000), thread 1 releases its 2 000 000, thread 0 computes
`total_used()` = 0 and passes the check for 2 500 000, thread 1 allocates 2 000 000 again, thread
0's CAS sees the value it loaded and succeeds: total 4 500 000 > 4 MiB. -/
theorem same_pool_release_aba_counterexample :
    let progs : List (List Op) :=
      [[.alloc 4 2500000], [.alloc 4 2000000, .release 4 2000000, .alloc 4 2000000]]
    let s := run (init 4194304 progs)
      (List.replicate 9 1 ++ [0, 0] ++ [1, 1, 1] ++ List.replicate 6 0 ++ List.replicate 9 1 ++ [0])
    s.limit = 4194304 ∧ s.totalUsed = 4500000 ∧ s.totalUsed > s.limit ∧
    (s.threads.map (·.results)) = [[true], [true, true]] := by
  decide +kernel

def cexProgs : List (List Op) := [[.alloc 0 2000000], [.alloc 1 2500000]]

/-- thread 0 runs `allocate(Cache, 2 000 000)` up to (not including) its CAS, thread 1 runs
`allocate(Query, 2 500 000)` up to its CAS, then both CAS succeed -/
def cexSched : List Nat :=
  List.replicate 14 0 ++ List.replicate 14 1 ++ [0, 1]

/-- The full statement is FALSE of the code (cross-pool check-then-CAS race).
Two threads, two pools, limit 4 MiB: both allocations pass the limit check against a total
that does not yet include the other one, both CASes succeed (they are on different counters),
and the tracked total ends ABOVE the limit. -/
theorem cross_pool_race_counterexample :
    let s := run (init 4194304 cexProgs) cexSched
    s.limit = 4194304 ∧ s.totalUsed = 4500000 ∧ s.totalUsed > s.limit ∧
    (s.threads.map (·.results)) = [[true], [true]] := by
  decide

/-- the same two calls one after the other: the second is refused and the total stays within the
limit (the schedule matters) -/
theorem cex_sequential_is_fine :
    let s := run (init 4194304 cexProgs) (List.replicate 15 0 ++ List.replicate 15 1)
    s.totalUsed ≤ s.limit ∧ (s.threads.map (·.results)) = [[true], [false]] := by
  decide

/-- non-vacuity of `seq_safe`: a program that fills the budget exactly and is then refused -/
example :
    let s := run (init 4194304 [[.alloc 4 4194304, .alloc 4 1]]) (List.replicate 24 0)
    s.totalUsed = 4194304 ∧ (s.threads.map (·.results)) = [[false, true]] := by decide +kernel

end TurVerif.C39
