import TurVerif.Model.Catalog
import TurVerif.Lemmas.Catalog
/-!
C40  Catalog persistence round-trips and survives crashes during DDL.

Theorems about `TurVerif.Catalog` (transcribed from src/schema/persistence.rs).
* `deserialize_serialize`: for every well-formed catalog (names/defaults/CHECK texts shorter than
  2^16 bytes, list lengths within their count fields, ids within their widths, a data-type byte the
  decoder knows, referential-action codes ≤ 5) `deserialize (serialize c) = some c`.
* `load_fileOf`: the file written by `save` (header + body) loads back to the same catalog.
* `save_crash_counterexample`: the pinned `save` rewrites the file in place; two of its four
  intermediate file contents (after the truncate, after the header) do not load although the old file
  did — reproduced on the real code (`crash:(kill|power):ddl:cat_(create|header):open-error`).
* `save_atomic`: with the temp-file + rename protocol of fix_catalog_save.patch every intermediate
  content of `turdb.catalog` is the old or the new file, hence loads to the old or the new catalog.
-/
namespace TurVerif.C40
open TurVerif.Catalog

/-! ### well-formedness (the ranges the format can represent) -/

def wfStr (s : Bytes) : Prop := s.length < 65536

def wfConstraint : Constraint → Prop
  | .foreignKey t c od ou => wfStr t ∧ wfStr c ∧ od ≤ 5 ∧ ou ≤ 5
  | .check e => wfStr e
  | _ => True

structure wfColumn (c : Column) : Prop where
  name : wfStr c.name
  ty : validType c.dataType = true
  ncons : c.constraints.length < 65536
  cons : ∀ k ∈ c.constraints, wfConstraint k
  dflt : ∀ d, c.dflt = some d → wfStr d
  maxLen : ∀ m, c.maxLen = some m → m < 256 ^ 4

structure wfIndex (i : Index) : Prop where
  name : wfStr i.name
  ncols : i.cols.length < 65536
  cols : ∀ c ∈ i.cols, wfStr c.name ∧ c.isExpr = false
  noWhere : i.whereClause = none

structure wfTable (t : Table) : Prop where
  id : t.id < 256 ^ 8
  name : wfStr t.name
  ncols : t.columns.length < 256 ^ 4
  cols : ∀ c ∈ t.columns, wfColumn c
  pk : ∀ l, t.pk = some l → l.length < 65536 ∧ ∀ s ∈ l, wfStr s
  nidx : t.indexes.length < 256 ^ 4
  idx : ∀ i ∈ t.indexes, wfIndex i
  toast : ∀ x, t.toast = some x → x < 256 ^ 8

structure wfSchema (s : Schema) : Prop where
  id : s.id < 256 ^ 4
  name : wfStr s.name
  ntab : s.tables.length < 256 ^ 4
  tabs : ∀ t ∈ s.tables, wfTable t

/-! ### one round trip per level

Each proof runs the reader over the encoder's output field by field (`rdStr_enc`, `rdLe_le`,
`rdMany_flatMap`, one byte for a tag or flag); an optional field is split on only when the reader
reaches its flag byte. -/

theorem rdConstraint_enc (k : Constraint) (r : Bytes) (h : wfConstraint k) :
    rdConstraint (encConstraint k ++ r) = some (k, r) := by
  cases k with
  | foreignKey t c od ou =>
    obtain ⟨h1, h2, h3, h4⟩ := h
    simp [rdConstraint, encConstraint, rdByte, rdStr_enc _ _ h1, rdStr_enc _ _ h2, decAction, h3, h4]
  | check e => simp [rdConstraint, encConstraint, rdByte, rdStr_enc _ _ h]
  | _ => simp [rdConstraint, encConstraint, rdByte]

theorem rdColumn_enc (c : Column) (r : Bytes) (h : wfColumn c) :
    rdColumn (encColumn c ++ r) = some (c, r) := by
  obtain ⟨name, ty, constraints, dflt, maxLen⟩ := c
  have hname : wfStr name := h.name
  have hty : validType ty = true := h.ty
  have hn : constraints.length < 256 ^ 2 := h.ncons
  have hm := rdMany_flatMap rdConstraint encConstraint constraints
    (fun k hk r => rdConstraint_enc k r (h.cons k hk))
  simp only [rdColumn, encColumn, List.append_assoc, List.cons_append, List.nil_append, rdByte,
    rdStr_enc _ _ hname, hty, rdLe_le 2 _ _ hn, hm]
  cases dflt with
  | none =>
    cases maxLen with
    | none => simp
    | some m => simp [rdLe_le 4 m _ (h.maxLen m rfl)]
  | some d =>
    cases maxLen with
    | none => simp [rdStr_enc _ _ (h.dflt d rfl)]
    | some m => simp [rdStr_enc _ _ (h.dflt d rfl), rdLe_le 4 m _ (h.maxLen m rfl)]

theorem rdIndexCol_enc (c : IndexCol) (r : Bytes) (h : wfStr c.name ∧ c.isExpr = false) :
    rdIndexCol (encIndexCol c ++ r) = some (c, r) := by
  obtain ⟨name, isExpr, desc⟩ := c
  obtain ⟨h1, h2⟩ := h
  simp only at h2
  subst h2
  cases desc <;> simp [rdIndexCol, encIndexCol, rdByte, rdStr_enc _ _ h1, flag]

theorem rdIndex_enc (i : Index) (r : Bytes) (h : wfIndex i) : rdIndex (encIndex i ++ r) = some (i, r) := by
  obtain ⟨name, cols, unique, hnsw, whereClause⟩ := i
  have hw : whereClause = none := h.noWhere
  subst hw
  have hname : wfStr name := h.name
  have hn : cols.length < 256 ^ 2 := h.ncols
  have hm := rdMany_flatMap rdIndexCol encIndexCol cols (fun c hc r => rdIndexCol_enc c r (h.cols c hc))
  simp only [rdIndex, encIndex, List.append_assoc, List.cons_append, List.nil_append, rdByte,
    rdStr_enc _ _ hname, rdLe_le 2 _ _ hn, hm]
  cases unique <;> cases hnsw <;> simp [flag]

theorem rdTable_enc (t : Table) (r : Bytes) (h : wfTable t) : rdTable (encTable t ++ r) = some (t, r) := by
  obtain ⟨id, name, columns, pk, indexes, toast⟩ := t
  have hid : id < 256 ^ 8 := h.id
  have hname : wfStr name := h.name
  have hnc : columns.length < 256 ^ 4 := h.ncols
  have hc := rdMany_flatMap rdColumn encColumn columns (fun c hc r => rdColumn_enc c r (h.cols c hc))
  have hni : indexes.length < 256 ^ 4 := h.nidx
  have hi := rdMany_flatMap rdIndex encIndex indexes (fun i hi r => rdIndex_enc i r (h.idx i hi))
  simp only [rdTable, encTable, List.append_assoc, List.cons_append, List.nil_append, rdByte,
    rdLe_le 8 _ _ hid, rdStr_enc _ _ hname, rdLe_le 4 _ _ hnc, hc]
  have ht : ∀ x, toast = some x → leVal (le x 8) = x := fun x hx => leVal_le 8 x (h.toast x hx)
  cases pk with
  | none => cases toast <;> simp [rdLe_le 4 _ _ hni, hi, length_le, ht]
  | some l =>
    obtain ⟨hl, hls⟩ := h.pk l rfl
    have hl2 : l.length < 256 ^ 2 := hl
    have hp := rdMany_flatMap rdStr encStr l (fun s hs r => rdStr_enc s r (hls s hs))
    cases toast <;>
      simp [rdLe_le 2 _ _ hl2, hp, rdLe_le 4 _ _ hni, hi, length_le, ht]

theorem rdSchema_enc (s : Schema) (r : Bytes) (h : wfSchema s) : rdSchema (encSchema s ++ r) = some (s, r) := by
  obtain ⟨id, name, tables⟩ := s
  have ht := rdMany_flatMap rdTable encTable tables (fun t ht r => rdTable_enc t r (h.tabs t ht))
  simp [rdSchema, encSchema, List.append_assoc, rdLe_le 4 _ _ h.id, rdStr_enc _ _ h.name,
    rdLe_le 4 _ _ h.ntab, ht]

theorem encSchema_length_pos (s : Schema) : 0 < (encSchema s).length := by
  rw [encSchema, List.append_assoc, List.append_assoc, List.length_append, length_le]
  exact Nat.lt_of_lt_of_le (Nat.zero_lt_succ 3) (Nat.le_add_right 4 _)

/-- fuel = buffer length suffices: every schema takes at least one byte -/
theorem deserializeAux_serialize (c : List Schema) (h : ∀ s ∈ c, wfSchema s) :
    ∀ fuel, (serialize c).length ≤ fuel → deserializeAux fuel (serialize c) = some c := by
  induction c with
  | nil => intro fuel _; cases fuel <;> rfl
  | cons s c ih =>
    intro fuel hf
    have hpos := encSchema_length_pos s
    have hcons : serialize (s :: c) = encSchema s ++ serialize c := List.flatMap_cons
    rw [hcons, List.length_append] at hf
    cases fuel with
    | zero => omega
    | succ fuel =>
      have hne : (encSchema s ++ serialize c).isEmpty = false := by
        cases he : encSchema s with
        | nil => rw [he] at hpos; exact absurd hpos (Nat.lt_irrefl 0)
        | cons _ _ => rfl
      simp [hcons, deserializeAux, hne, rdSchema_enc s (serialize c) (h s List.mem_cons_self),
        ih (fun x hx => h x (List.mem_cons_of_mem _ hx)) fuel (by omega)]

/-- `load` looks at four fields of the header: the magic, the version at 16, the body offset at 64
and the body length at 72.  `g`, `z` stand for the bytes it skips. -/
theorem load_layout (v g o n z body : Bytes) (hv : v.length = 4) (hg : g.length = 44)
    (ho : o.length = 8) (hn : n.length = 8) (hz : z.length = 48)
    (hver : leVal v = 1) (hoff : leVal o = 128) :
    load (magic ++ v ++ g ++ o ++ n ++ z ++ body) =
      (rdN (leVal n) body).bind fun p => deserialize p.1 := by
  have hm : magic.length = 16 := rfl
  have e16 := field_at magic v (g ++ (o ++ (n ++ (z ++ body)))) hm hv
  have e64 := field_at (magic ++ v ++ g) o (n ++ (z ++ body)) (n := 64)
    (by rw [List.length_append, List.length_append, hm, hv, hg]) ho
  have e72 := field_at (magic ++ v ++ g ++ o) n (z ++ body) (n := 72)
    (by rw [List.length_append, List.length_append, List.length_append, hm, hv, hg, ho]) hn
  have e128 : (magic ++ v ++ g ++ o ++ n ++ z ++ body).drop 128 = body :=
    List.drop_left' (by simp only [List.length_append, hm, hv, hg, ho, hn, hz])
  have hl : ¬ (magic ++ v ++ g ++ o ++ n ++ z ++ body).length < 128 := by
    simp only [List.length_append, hm, hv, hg, ho, hn, hz]; omega
  simp only [List.append_assoc] at e16 e64 e72 e128 hl
  simp only [load, List.append_assoc, hl, List.take_left' hm, e16, e64, e72, e128, hver, hoff,
    ne_eq, not_true_eq_false, if_false]
  cases rdN (leVal n) body <;> rfl

theorem load_header_app (sc dflt len : Nat) (body : Bytes) (hlen : len < 256 ^ 8) :
    load (header sc dflt len ++ body) = (rdN len body).bind fun p => deserialize p.1 := by
  have := load_layout (le 1 4) (le 16384 4 ++ le sc 8 ++ le dflt 8 ++ zeros 24) (le 128 8)
    (le len 8) (zeros 48) body (length_le _ _) (by simp [length_le, length_zeros])
    (length_le _ _) (length_le _ _) (length_zeros _) (leVal_le 4 1 (by decide))
    (leVal_le 8 128 (by decide))
  rw [leVal_le 8 len hlen] at this
  simpa only [header, List.append_assoc] using this

theorem load_fileOf_eq (c : List Schema) (dflt : Nat) (hlen : (serialize c).length < 256 ^ 8) :
    load (fileOf c dflt) = deserialize (serialize c) := by
  have := rdN_app (serialize c) []
  rw [List.append_nil] at this
  rw [fileOf, load_header_app _ _ _ _ hlen, this]; rfl

/-- A header that announces a body, with no body behind it, does not load. -/
theorem load_header (sc dflt len : Nat) (h0 : 0 < len) (hlen : len < 256 ^ 8) :
    load (header sc dflt len) = none := by
  have := load_header_app sc dflt len [] hlen
  rw [List.append_nil] at this
  rw [this, rdN, if_neg (show ¬ len ≤ ([] : Bytes).length from Nat.not_le_of_gt h0)]; rfl

/-- the catalog codec round-trips every catalog the format can represent -/
theorem deserialize_serialize (c : List Schema) (h : ∀ s ∈ c, wfSchema s) :
    deserialize (serialize c) = some c :=
  deserializeAux_serialize c h _ (Nat.le_refl _)

/-- non-vacuity: a catalog with a table using every construct is well formed and round-trips -/
def sample : List Schema :=
  [{ id := 1, name := [114], tables :=
      [{ id := 3, name := [116], pk := some [[105]], toast := some 4,
         columns := [{ name := [105], dataType := 2, constraints := [.primaryKey, .notNull], dflt := none, maxLen := none },
                     { name := [118], dataType := 24, constraints := [.check [62], .foreignKey [117] [107] 1 0],
                       dflt := some [100], maxLen := some 20 }],
         indexes := [{ name := [120], cols := [{ name := [118], desc := true }], unique := true, hnsw := false }] }] }]

theorem sample_roundtrip : deserialize (serialize sample) = some sample := by decide

example : deserialize (serialize sample) = some sample := sample_roundtrip

/-- the format has no room for expression index columns (written as the empty column name) nor for
the predicate of a partial index: such catalogs do NOT round-trip (reproduced on the real code:
`catalog-rt:expression-index-column-lost`, `catalog-rt:partial-index-predicate-lost`) -/
theorem expression_index_counterexample :
    let ix : Index := { name := [120], cols := [{ name := [97, 43, 49], isExpr := true, desc := false }],
                        unique := false, hnsw := false }
    let c : List Schema := [{ id := 0, name := [114], tables :=
      [{ id := 3, name := [116], columns := [], pk := none, indexes := [ix], toast := none }] }]
    deserialize (serialize c) ≠ some c ∧ (deserialize (serialize c)).isSome = true := by decide

theorem partial_index_counterexample :
    let ix : Index := { name := [120], cols := [{ name := [97], desc := false }], unique := false, hnsw := false,
                        whereClause := some [97, 62, 48] }
    let c : List Schema := [{ id := 0, name := [114], tables :=
      [{ id := 3, name := [116], columns := [], pk := none, indexes := [ix], toast := none }] }]
    deserialize (serialize c) ≠ some c ∧ (deserialize (serialize c)).isSome = true := by decide

/-- the file `save` writes loads back to the catalog it was written from -/
theorem load_fileOf (c : List Schema) (dflt : Nat) (h : ∀ s ∈ c, wfSchema s)
    (hlen : (serialize c).length < 256 ^ 8) : load (fileOf c dflt) = some c :=
  (load_fileOf_eq c dflt hlen).trans (deserialize_serialize c h)

/-- the pinned in-place `save`: a crash after the truncate or after the header write leaves a file
that does not load — every table of the old catalog is lost although the old file loaded fine. -/
theorem save_crash_counterexample :
    let old := fileOf sample 1
    let newc := sample ++ [{ id := 2, name := [115], tables := [] }]
    load old = some sample ∧
    (∃ st ∈ saveStates old newc 1, load st = none) ∧
    load ((saveStates old newc 1)[1]!) = none ∧ load ((saveStates old newc 1)[2]!) = none :=
  ⟨(load_fileOf_eq sample 1 (by decide)).trans sample_roundtrip,
   ⟨[], List.mem_cons_of_mem _ List.mem_cons_self, rfl⟩, rfl,
   load_header _ _ _ (by decide) (by decide)⟩

/-- temp-file + rename: whatever the crash point, `turdb.catalog` is the complete old or the complete
new file, so `load` gives the old or the new catalog -/
theorem save_atomic (old : Bytes) (c : List Schema) (dflt : Nat) :
    ∀ st ∈ saveStatesFixed old c dflt, load st = load old ∨ load st = load (fileOf c dflt) := by
  intro st hst
  simp only [saveStatesFixed, List.mem_cons, List.not_mem_nil, or_false] at hst
  rcases hst with h | h | h | h | h <;> simp [h]

/-- two different representable catalogs never share an encoding (no information is merged by
`serialize`) -/
theorem serialize_injective (c1 c2 : List Schema) (h1 : ∀ s ∈ c1, wfSchema s)
    (h2 : ∀ s ∈ c2, wfSchema s) (h : serialize c1 = serialize c2) : c1 = c2 := by
  have e1 := deserialize_serialize c1 h1
  have e2 := deserialize_serialize c2 h2
  rw [h, e2] at e1
  exact (Option.some.inj e1).symm

/-- end-to-end crash statement for the repaired `save`: starting from a file written for a
representable catalog `c0`, a crash at any step of saving a representable `c` leaves a file that
loads to exactly `c0` or exactly `c` — no table or index of `c0` is ever lost -/
theorem save_crash_safe (c0 c : List Schema) (d0 dflt : Nat)
    (h0 : ∀ s ∈ c0, wfSchema s) (hc : ∀ s ∈ c, wfSchema s)
    (hl0 : (serialize c0).length < 256 ^ 8) (hlc : (serialize c).length < 256 ^ 8) :
    ∀ st ∈ saveStatesFixed (fileOf c0 d0) c dflt, load st = some c0 ∨ load st = some c := by
  intro st hst
  rcases save_atomic (fileOf c0 d0) c dflt st hst with h | h
  · left; rw [h]; exact load_fileOf c0 d0 h0 hl0
  · right; rw [h]; exact load_fileOf c dflt hc hlc

end TurVerif.C40
