import TurVerif.Lemmas.SqlDb
import TurVerif.Lemmas.SqlDml
/-!
C06  A failing statement has no effect.

M-spec part: theorems about the relational state machine `TurVerif.SqlDb` (`step`, `run`): a
statement whose result is an error leaves the state *exactly* as it was (every statement kind,
every reachable or unreachable state), lifted to histories.

M-code part: the engine's per-row validate-then-write INSERT loop
(`src/database/dml/insert.rs`, `execute_insert_internal`, the `for mut values in rows_to_insert`
loop: validate row k, `bail!` on violation, otherwise write row k and go on; the header
`row_count` is only written after the loop) is transcribed as `TurVerif.SqlDml.insertLoop`.
`per_row_loop_counterexample` proves that this loop does NOT have the property (row k fails, rows
< k stay, the header count is stale); `insertLoop_partial` and `insertLoop_fail_first` prove the
property on the domain where it does hold (single-row statements; the first row fails).  The
harness (`sql_dml`) confirms on the real code that the engine behaves like `insertLoop`, not like
the spec.
-/
namespace TurVerif.C06
open TurVerif.Sql TurVerif.SqlDb

theorem applyValid_err_state (s s' : DbState) (n : Nat) (ret : List Row) (e : Err)
    (h : (applyValid s s' (.affected n ret)).2 = .err e) :
    (applyValid s s' (.affected n ret)).1 = s := by
  rcases applyValid_cases s s' (.affected n ret) with ⟨he, _⟩ | ⟨e', he⟩
  · rw [he] at h; cases h
  · rw [he]

theorem applyValid_fst (s s' : DbState) (res : Res) :
    (applyValid s s' res).1 = s ∨ ((applyValid s s' res) = (s', res) ∧ dbValid s' = .ok true) :=
  (applyValid_cases s s' res).symm.imp_left fun ⟨_, he⟩ => by rw [he]

/-- HEADLINE: for every statement kind and every state: if the statement returns an error, the
state after it is the state before it (tables, rows, AUTO_INCREMENT counters, open transaction). -/
theorem err_no_effect (s : DbState) (st : Stmt) (e : Err)
    (h : (step s st).2 = .err e) : (step s st).1 = s := by
  revert h
  -- DML: the error arises before any effect, or `applyValid` rejects the candidate state;
  -- every other statement has one branch per outcome, and the error branches return `s`
  cases st with
  | insert | update | delete =>
    dsimp only [step]
    split
    · exact fun _ => rfl
    · split
      · exact fun _ => rfl
      · exact applyValid_err_state _ _ _ _ _
  | truncate =>
    dsimp only [step]
    split
    · exact fun _ => rfl
    · exact applyValid_err_state _ _ _ _ _
  | _ => dsimp only [step]; split <;> first | exact fun _ => rfl | exact nofun

/-- the same as an equation on `step` -/
theorem err_step_eq (s : DbState) (st : Stmt) (e : Err)
    (h : (step s st).2 = .err e) : step s st = (s, .err e) := by
  have h1 := err_no_effect s st e h
  exact Prod.ext h1 h

theorem run_nil (s : DbState) : run s [] = (s, []) := rfl

/-- a failing statement at the head of a history can be dropped -/
theorem run_err_head (s : DbState) (st : Stmt) (rest : List Stmt) (e : Err)
    (h : (step s st).2 = .err e) : (run s (st :: rest)).1 = (run s rest).1 := by
  rw [run_cons, err_no_effect s st e h]

/-- lifted to histories: a statement that fails at its position in a history has no influence on
the final state – removing it from the history gives the same final state -/
theorem run_err_no_effect (s : DbState) (pre post : List Stmt) (st : Stmt) (e : Err)
    (h : (step (run s pre).1 st).2 = .err e) :
    (run s (pre ++ st :: post)).1 = (run s (pre ++ post)).1 := by
  rw [run_append, run_append, run_err_head _ _ _ e h]

/-- a history in which every statement fails is the identity -/
theorem run_all_err (s : DbState) (sts : List Stmt)
    (h : ∀ r ∈ (run s sts).2, ∃ e, r = .err e) : (run s sts).1 = s := by
  induction sts generalizing s with
  | nil => rfl
  | cons st rest ih =>
    rw [run_cons] at h ⊢
    obtain ⟨e, he⟩ := h (step s st).2 (by simp)
    have hs := err_no_effect s st e he
    simp only [hs] at h ⊢
    exact ih s (fun r hr => h r (List.mem_cons_of_mem _ hr))

/-- a statement that does change the state did not fail (contrapositive, used by the harness
oracle: state changed ⇒ result must be Ok) -/
theorem changed_not_err (s : DbState) (st : Stmt) (hne : (step s st).1 ≠ s) :
    ∀ e, (step s st).2 ≠ .err e :=
  fun e h => hne (err_no_effect s st e h)

def exTable : TableSt :=
  { name := "t", cols := [{ name := "id", pk := true }, { name := "a" }], rows := [[.int 1, .int 10]] }
def exState : DbState := { tables := [exTable] }
def exStmt : Stmt :=
  .insert "t" [0, 1] [[.lit (.int 2), .lit (.int 20)], [.lit (.int 1), .lit (.int 30)], [.lit (.int 3), .lit (.int 30)]]

/-- non-vacuity: a multi-row INSERT whose second row violates the primary key fails in the spec,
and the table keeps exactly its old rows (decided on a concrete state) -/
theorem spec_multirow_insert_fails_atomically :
    (match (step exState exStmt).2 with | .err .constraint => true | _ => false) = true ∧
    ((step exState exStmt).1.find "t").map (·.rows) = some [[.int 1, .int 10]] := by
  decide

/-! ### M-code: the engine's per-row INSERT loop -/
open TurVerif.SqlDml

/-- the loop is atomic when it fails at the first row: nothing was written -/
theorem insertLoop_fail_first (ok : List Row → Row → Bool) (st : TStore) (r : Row) (rest : List Row)
    (h : ok (visible st) r = false) :
    insertLoop ok st (r :: rest) = (st, some 0) := by
  simp [insertLoop, insertLoop.go, h]

/-- `_partial`: on single-row statements the engine's loop has the property (error ⇒ store
unchanged). Full statement (false of the loop, see the counterexample below):
`∀ ok st rows k, (insertLoop ok st rows).2 = some k → (insertLoop ok st rows).1 = st`. -/
theorem insertLoop_partial (ok : List Row → Row → Bool) (st : TStore) (r : Row) (k : Nat)
    (h : (insertLoop ok st [r]).2 = some k) : (insertLoop ok st [r]).1 = st := by
  cases hok : ok (visible st) r
  · rw [insertLoop_fail_first ok st r [] hok]
  · simp [insertLoop, insertLoop.go, hok] at h

/-- general shape of a failure at row k: the first k rows are visible after the statement, and
the COUNT(*) header still has its old value -/
theorem insertLoop_fail_keeps_prefix (ok : List Row → Row → Bool) (st : TStore) (rows : List Row)
    (k : Nat) (h : (insertLoop ok st rows).2 = some k) :
    visible (insertLoop ok st rows).1 = visible st ++ rows.take k ∧
    (insertLoop ok st rows).1.rowCount = st.rowCount ∧ k < rows.length := by
  rw [insertLoop] at h ⊢
  rcases insertLoop_go ok st.rowCount rows st 0 with ⟨st', he, _⟩ | ⟨j, st', he, hj, hv, hc⟩
  · rw [he] at h; cases h
  · rw [he] at h ⊢
    cases h
    rw [Nat.zero_add]
    exact ⟨hv, hc, hj⟩

/-- COUNTEREXAMPLE (confirmed on the real code by the harness, finding C06-multirow-insert-partial):
a three-row INSERT into an empty table with a unique first column whose third row repeats the
first key returns an error, yet the first two rows are visible afterwards, and the header
count that answers COUNT(*) still says 0. -/
theorem per_row_loop_counterexample :
    let ok := fun (vis : List Row) (r : Row) => !(vis.any (fun x => x.head? == r.head?))
    let st : TStore := { slots := [], rowCount := 0 }
    let rows : List Row := [[.int 1], [.int 2], [.int 1]]
    (insertLoop ok st rows).2 = some 2 ∧
    visible (insertLoop ok st rows).1 = [[.int 1], [.int 2]] ∧
    visible (insertLoop ok st rows).1 ≠ visible st ∧
    (insertLoop ok st rows).1.rowCount = 0 := by
  decide

/-- hence the full statement is false of the loop, already in the weaker form that compares what a
scan sees instead of the stores -/
theorem insertLoop_not_atomic :
    ¬ (∀ (ok : List Row → Row → Bool) (st : TStore) (rows : List Row) (k : Nat),
        (insertLoop ok st rows).2 = some k → visible (insertLoop ok st rows).1 = visible st) := by
  intro h
  have hc := per_row_loop_counterexample
  simp only at hc
  exact hc.2.2.1 (h _ _ _ 2 hc.1)

/-- used where the conditions are large terms, on which `split` is slow -/
theorem of_ite {α : Type} {c : Prop} [Decidable c] {a b : α} (Q : α → Prop) (h1 : Q a) (h2 : Q b) :
    Q (if c then a else b) := by
  split <;> assumption

/-- the M-code UPDATE writes only on the path that ends in `.ok`: each of the three checks that
can fail returns the store it was given -/
theorem mUpdate_fst_or_ok (t : TableSt) (sets : List (Nat × Expr)) (whr : Option Expr)
    (st : TStore) :
    (mUpdate t sets whr st).1 = st ∨ ∃ n d, (mUpdate t sets whr st).2 = .ok n d := by
  unfold mUpdate
  extract_lets p point selected modified ucols clash
  let Q : TStore × MRes → Prop := fun r => r.1 = st ∨ ∃ n d, r.2 = .ok n d
  refine of_ite Q (.inl rfl) (of_ite Q (.inl rfl) (of_ite Q (.inl rfl) ?_))
  clear_value clash selected point
  cases point <;> exact .inr ⟨_, _, rfl⟩

/-- the engine's UPDATE (validate every selected row, then look up the unique indexes, then write)
IS atomic: whenever the M-code UPDATE reports a failure the store is untouched -/
theorem mUpdate_err_no_effect (t : TableSt) (sets : List (Nat × Expr)) (whr : Option Expr)
    (st : TStore) (h : ∀ n d, (mUpdate t sets whr st).2 ≠ .ok n d) :
    (mUpdate t sets whr st).1 = st :=
  (mUpdate_fst_or_ok t sets whr st).resolve_right fun ⟨n, d, e⟩ => h n d e

/-- DELETE never fails in the M-code: no constraint is checked on this path (`mTruncate` returns
`.ok` by definition) -/
theorem mDelete_never_errs (t : TableSt) (whr : Option Expr) (st : TStore) :
    ∃ n d, (mDelete t whr st).2 = .ok n d := by
  unfold mDelete
  split <;> exact ⟨_, _, rfl⟩

/-- an INSERT that fails while its VALUES expressions are evaluated has no effect -/
theorem mInsert_evalErr_no_effect (t : TableSt) (cols : List Nat) (rows : List (List Expr))
    (st : TStore) (h : (mInsert t cols rows st).2 = .evalErr) : (mInsert t cols rows st).1 = st := by
  unfold mInsert at *
  split
  · rfl
  · rename_i nr nx hb
    simp only [hb] at h
    split at h <;> simp at h

end TurVerif.C06
