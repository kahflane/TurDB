import TurVerif.Model.Sql
import TurVerif.Model.SqlCmp
import TurVerif.Lemmas.SqlBasic
import TurVerif.Lemmas.SqlOrder
/-!
C15  ORDER BY / LIMIT / OFFSET / DISTINCT are exact.

Theorems about the reference semantics `TurVerif.Sql` (M-spec: `orderBy`, `keysLe`, `limitOffset`,
`distinct` *are* the definition the property statement refers to) and about the M-code models of
the engine's three sort comparators (`TurVerif.SqlCmp`).  The executor itself is not modelled; it is
tied to this semantics by the differential engine `sql_order` (see props/C15.json).
-/
namespace TurVerif.C15
open TurVerif.Sql

theorem attachKeys_cons_ok_iff {ks : List OrderKey} {r : Row} {rs : List Row}
    {kr : List (List (Val × Bool) × Row)} : attachKeys ks (r :: rs) = .ok kr ↔
      ∃ k out, evalKeys ks r = .ok k ∧ attachKeys ks rs = .ok out ∧ kr = (k, r) :: out := by
  cases hk : evalKeys ks r <;> cases ho : attachKeys ks rs <;> simp [attachKeys, hk, ho, eq_comm]

theorem attachKeys_ok_iff {ks : List OrderKey} {rows : List Row}
    {kr : List (List (Val × Bool) × Row)} :
    attachKeys ks rows = .ok kr ↔ kr.map (·.2) = rows ∧ ∀ p ∈ kr, evalKeys ks p.2 = .ok p.1 := by
  induction rows generalizing kr with
  | nil => cases kr <;> simp [attachKeys]
  | cons r rs ih =>
    rw [attachKeys_cons_ok_iff]
    constructor
    · rintro ⟨k, out, hk, ho, rfl⟩
      exact ⟨congrArg (r :: ·) (ih.mp ho).1, List.forall_mem_cons.mpr ⟨hk, (ih.mp ho).2⟩⟩
    · rintro ⟨h1, h2⟩
      obtain ⟨⟨k, _⟩, out, rfl, rfl, rfl⟩ := List.map_eq_cons_iff.mp h1
      have h2 := List.forall_mem_cons.mp h2
      exact ⟨k, out, h2.1, ih.mpr ⟨rfl, h2.2⟩, rfl⟩

theorem evalKeys_shape (ks : List OrderKey) (r : Row) (k : List (Val × Bool))
    (h : evalKeys ks r = .ok k) : keyShape k = ks.map (·.desc) := by
  induction ks generalizing k with
  | nil => cases h; rfl
  | cons x xs ih =>
    simp only [evalKeys] at h
    split at h <;> cases h
    exact congrArg (x.desc :: ·) (ih _ ‹_›)

theorem orderBy_ok {ks : List OrderKey} {rows out : List Row} (h : orderBy ks rows = .ok out) :
    ∃ kr, attachKeys ks rows = .ok kr ∧
      out = (kr.mergeSort (fun a b => keysLe a.1 b.1)).map (·.2) := by
  simp only [orderBy] at h
  split at h <;> cases h
  exact ⟨_, ‹_›, rfl⟩

theorem orderBy_perm (ks : List OrderKey) (rows out : List Row)
    (h : orderBy ks rows = .ok out) : out.Perm rows := by
  obtain ⟨kr, hkr, rfl⟩ := orderBy_ok h
  rw [← (attachKeys_ok_iff.mp hkr).1]
  exact (List.mergeSort_perm kr _).map _

/-- the keyed rows of one ORDER BY all have the shape of the key list, so `keysLe` is a total
preorder on them -/
theorem keys_same_shape {ks : List OrderKey} {rows : List Row}
    {kr : List (List (Val × Bool) × Row)} (h : attachKeys ks rows = .ok kr) :
    ∀ p ∈ kr, keyShape p.1 = ks.map (·.desc) :=
  fun p hp => evalKeys_shape ks p.2 p.1 ((attachKeys_ok_iff.mp h).2 p hp)

/-- the output of ORDER BY is sorted: re-evaluating the keys on the output gives a sequence in
which every earlier key tuple is `keysLe` every later one (for every key list, every direction
combination, NULLs and mixed INT/DOUBLE included) -/
theorem orderBy_sorted (ks : List OrderKey) (rows out : List Row)
    (h : orderBy ks rows = .ok out) :
    ∃ kr, attachKeys ks out = .ok kr ∧ kr.Pairwise (fun a b => keysLe a.1 b.1 = true) := by
  obtain ⟨kr, hkr, rfl⟩ := orderBy_ok h
  refine ⟨kr.mergeSort (fun a b => keysLe a.1 b.1), attachKeys_ok_iff.mpr ⟨rfl, fun p hp => ?_⟩, ?_⟩
  · exact (attachKeys_ok_iff.mp hkr).2 p ((List.mergeSort_perm kr _).mem_iff.mp hp)
  · exact pairwise_mergeSort_keys kr (keys_same_shape hkr)

/-- ORDER BY is stable: any sub-sequence of the input whose keys are already in order keeps its
relative order in the output (in particular two rows with equal keys) -/
theorem orderBy_stable (ks : List OrderKey) (rows out : List Row)
    (kr c : List (List (Val × Bool) × Row))
    (h : orderBy ks rows = .ok out) (hkr : attachKeys ks rows = .ok kr)
    (hc : c.Sublist kr) (hs : c.Pairwise (fun a b => keysLe a.1 b.1 = true)) :
    (c.map (·.2)).Sublist out := by
  obtain ⟨kr', hkr', rfl⟩ := orderBy_ok h
  cases hkr.symm.trans hkr'
  exact (sublist_mergeSort_keys kr (keys_same_shape hkr) c hs hc).map _

theorem null_first_asc (v : Val) : keysLe [(.null, false)] [(v, false)] = true := by
  rw [keysLe_single]; rfl

theorem nonnull_after_null_asc (v : Val) (hv : v ≠ .null) :
    keysLe [(v, false)] [(.null, false)] = false := by
  rw [keysLe_single]; exact Bool.eq_false_iff.mpr (mt (Val.le_null_iff v).mp hv)

theorem null_last_desc (v : Val) : keysLe [(v, true)] [(.null, true)] = true := by
  rw [keysLe_single]; rfl

theorem null_not_before_nonnull_desc (v : Val) (hv : v ≠ .null) :
    keysLe [(.null, true)] [(v, true)] = false := by
  rw [keysLe_single]; exact Bool.eq_false_iff.mpr (mt (Val.le_null_iff v).mp hv)

theorem evalKeys_single_ok {e : Expr} {d : Bool} {r : Row} {k : List (Val × Bool)} :
    evalKeys [⟨e, d⟩] r = .ok k ↔ ∃ v, eval r e = .ok v ∧ k = [(v, d)] := by
  simp only [evalKeys]
  cases eval r e <;> simp [eq_comm]

theorem orderBy_single_sorted (e : Expr) (d : Bool) (rows out : List Row)
    (h : orderBy [⟨e, d⟩] rows = .ok out) :
    out.Pairwise (fun a b => ∃ va vb, eval a e = .ok va ∧ eval b e = .ok vb ∧
      Val.dle d va vb = true) := by
  obtain ⟨kr, hkr, hs⟩ := orderBy_sorted _ rows out h
  obtain ⟨hm, hk⟩ := attachKeys_ok_iff.mp hkr
  have key : ∀ p ∈ kr, ∃ v, eval p.2 e = .ok v ∧ p.1 = [(v, d)] :=
    fun p hp => evalKeys_single_ok.mp (hk p hp)
  rw [← hm, List.pairwise_map]
  refine hs.imp_of_mem fun {a b} ha hb hab => ?_
  obtain ⟨va, hva, ka⟩ := key a ha
  obtain ⟨vb, hvb, kb⟩ := key b hb
  rw [ka, kb, keysLe_single] at hab
  exact ⟨va, vb, hva, hvb, hab⟩

theorem orderBy_nulls_first_asc (e : Expr) (rows out : List Row)
    (h : orderBy [⟨e, false⟩] rows = .ok out) :
    out.Pairwise (fun a b => eval b e = .ok .null → eval a e = .ok .null) := by
  refine (orderBy_single_sorted e false rows out h).imp ?_
  rintro a b ⟨va, vb, hva, hvb, hab⟩ hbn
  cases hvb.symm.trans hbn
  rw [hva, (Val.le_null_iff va).mp hab]

theorem orderBy_nulls_last_desc (e : Expr) (rows out : List Row)
    (h : orderBy [⟨e, true⟩] rows = .ok out) :
    out.Pairwise (fun a b => eval a e = .ok .null → eval b e = .ok .null) := by
  refine (orderBy_single_sorted e true rows out h).imp ?_
  rintro a b ⟨va, vb, hva, hvb, hab⟩ han
  cases hva.symm.trans han
  rw [hvb, (Val.le_null_iff vb).mp hab]

theorem limit_window (l o : Nat) (rows : List Row) :
    limitOffset (some l) o rows = (rows.drop o).take l := rfl

theorem offset_window (o : Nat) (rows : List Row) : limitOffset none o rows = rows.drop o := rfl

theorem limit_length (l o : Nat) (rows : List Row) :
    (limitOffset (some l) o rows).length = min l (rows.length - o) := by
  simp [limitOffset]

theorem offset_length (o : Nat) (rows : List Row) :
    (limitOffset none o rows).length = rows.length - o := by
  simp [limitOffset]

theorem limit_getElem (l o i : Nat) (rows : List Row) :
    (limitOffset (some l) o rows)[i]? = if i < l then rows[o + i]? else none := by
  simp [limitOffset, List.getElem?_take, List.getElem?_drop]

theorem limit_sublist (lim : Option Nat) (o : Nat) (rows : List Row) :
    (limitOffset lim o rows).Sublist rows := by
  cases lim with
  | none => exact List.drop_sublist _ _
  | some l => exact (List.take_sublist _ _).trans (List.drop_sublist _ _)

theorem limit_zero (o : Nat) (rows : List Row) : limitOffset (some 0) o rows = [] := by
  simp [limitOffset]

theorem offset_beyond (lim : Option Nat) (o : Nat) (rows : List Row) (h : rows.length ≤ o) :
    limitOffset lim o rows = [] := by
  cases lim <;> simp [limitOffset, List.drop_eq_nil_of_le h]

theorem limit_all (l : Nat) (rows : List Row) (h : rows.length ≤ l) :
    limitOffset (some l) 0 rows = rows := by
  simp [limitOffset, List.take_of_length_le h]

theorem distinct_sublist : ∀ rows : List Row, (distinct rows).Sublist rows
  | [] => List.Sublist.slnil
  | r :: rs => by
    simp only [distinct]
    exact ((List.filter_sublist).trans (distinct_sublist rs)).cons_cons r

theorem distinct_nodup : ∀ rows : List Row,
    (distinct rows).Pairwise (fun a b => rowSame a b = false) :=
  distinct_pairwise

theorem distinct_complete : ∀ (rows : List Row) (r : Row), r ∈ rows →
    ∃ r' ∈ distinct rows, rowSame r' r = true
  | [], r, h => by simp at h
  | r0 :: rs, r, h => by
    simp only [distinct]
    rcases List.mem_cons.mp h with rfl | h
    · exact ⟨r, by simp, rowSame_refl r⟩
    · obtain ⟨r', hr', hs⟩ := distinct_complete rs r h
      cases h0 : rowSame r0 r' with
      | true => exact ⟨r0, by simp, rowSame_trans h0 hs⟩
      | false => exact ⟨r', List.mem_cons_of_mem _ (List.mem_filter.mpr ⟨hr', by simp [h0]⟩), hs⟩

theorem distinct_exactly_once (rows : List Row) (r : Row) (h : r ∈ rows) :
    ((distinct rows).filter (fun x => rowSame x r)).length = 1 := by
  obtain ⟨r', hr', hs⟩ := distinct_complete rows r h
  have hnd := distinct_nodup rows
  generalize distinct rows = d at hr' hnd
  induction d with
  | nil => cases hr'
  | cons x xs ih =>
    rw [List.pairwise_cons] at hnd
    rw [List.filter_cons]
    cases hx : rowSame x r
    · rcases List.mem_cons.mp hr' with rfl | hr'
      · rw [hs] at hx; cases hx
      · exact ih hr' hnd.2
    · -- `x` represents `r`; no later row does, since it would be the same as `x`
      have : xs.filter (fun y => rowSame y r) = [] := List.filter_eq_nil_iff.mpr fun y hy hyr =>
        Bool.false_ne_true ((hnd.1 y hy).symm.trans (rowSame_trans hx (rowSame_symm hyr)))
      rw [if_pos rfl, this]; rfl

theorem distinct_idem (rows : List Row) : distinct (distinct rows) = distinct rows := by
  have h := distinct_nodup rows
  generalize distinct rows = d at h
  induction d with
  | nil => rfl
  | cons x xs ih =>
    rw [List.pairwise_cons] at h
    simp only [distinct, ih h.2]
    congr 1
    rw [List.filter_eq_self]
    intro y hy
    simp [h.1 y hy]

/-
DISTINCT combined with ORDER BY.  Full statement (not proved here): for order keys over the
output row and rows on which `rowSame` is equality, `orderBy ks (distinct rows) = distinct (orderBy ks rows)` as *lists*
(needs: a stable sort keeps first occurrences first, so both sides order ties by first occurrence
in `rows`).  Proved instead (`distinct_orderBy_commute_partial`): both orders of the two operations
give a result that is sorted by the keys, free of duplicates, and represents exactly the input rows;
i.e. they agree up to the order of rows with equal keys and the choice of representative.
-/
theorem attachKeys_sublist (ks : List OrderKey) (kr : List (List (Val × Bool) × Row))
    (l : List Row) (out : List Row) (h : attachKeys ks out = .ok kr) (hl : l.Sublist out) :
    ∃ kl, attachKeys ks l = .ok kl ∧ kl.Sublist kr := by
  obtain ⟨hm, hk⟩ := attachKeys_ok_iff.mp h
  rw [← hm] at hl
  obtain ⟨kl, hkl, rfl⟩ := List.sublist_map_iff.mp hl
  exact ⟨kl, attachKeys_ok_iff.mpr ⟨rfl, fun p hp => hk p (hkl.subset hp)⟩, hkl⟩

theorem distinct_orderBy_commute_partial (ks : List OrderKey) (rows x y : List Row)
    (hx : orderBy ks (distinct rows) = .ok x) (hy : orderBy ks rows = .ok y) :
    -- both are sorted by the keys
    (∃ kx, attachKeys ks x = .ok kx ∧ kx.Pairwise (fun a b => keysLe a.1 b.1 = true)) ∧
    (∃ ky, attachKeys ks (distinct y) = .ok ky ∧ ky.Pairwise (fun a b => keysLe a.1 b.1 = true)) ∧
    -- both are duplicate-free
    x.Pairwise (fun a b => rowSame a b = false) ∧
    (distinct y).Pairwise (fun a b => rowSame a b = false) ∧
    -- both represent every input row, and contain only input rows
    (∀ r ∈ rows, (∃ r' ∈ x, rowSame r' r = true) ∧ (∃ r' ∈ distinct y, rowSame r' r = true)) ∧
    (∀ r ∈ x, r ∈ rows) ∧ (∀ r ∈ distinct y, r ∈ rows) := by
  have px := orderBy_perm ks _ x hx
  have py := orderBy_perm ks _ y hy
  refine ⟨orderBy_sorted ks _ x hx, ?_, ?_, distinct_nodup y, ?_, ?_, ?_⟩
  · obtain ⟨ky, hky, hs⟩ := orderBy_sorted ks rows y hy
    obtain ⟨kl, hkl, hsub⟩ := attachKeys_sublist ks ky (distinct y) y hky (distinct_sublist y)
    exact ⟨kl, hkl, hs.sublist hsub⟩
  · refine (List.Perm.pairwise_iff ?_ px).mpr (distinct_nodup rows)
    intro a b hab
    cases h : rowSame b a with
    | false => rfl
    | true => rw [rowSame_symm h] at hab; exact absurd hab (by simp)
  · intro r hr
    constructor
    · obtain ⟨r', hr', hs⟩ := distinct_complete rows r hr
      exact ⟨r', px.mem_iff.mpr hr', hs⟩
    · exact distinct_complete y r (py.mem_iff.mpr hr)
  · intro r hr
    exact (distinct_sublist rows).subset (px.mem_iff.mp hr)
  · intro r hr
    exact py.mem_iff.mp ((distinct_sublist y).subset hr)

open TurVerif.SqlCmp in
/-- `Value::compare_for_sort`: NULL compares Equal to every value -/
theorem cmpForSort_null_equal (v : EV) : cmpForSort .null v = .eq ∧ cmpForSort v .null = .eq := by
  cases v <;> exact ⟨rfl, rfl⟩

open TurVerif.SqlCmp in
/-- hence `<=` of the comparator the live sort paths use is not transitive (2 <= NULL <= 1 but not
2 <= 1): it is not a total preorder, `sort_by` may return any order and NULLs stay where they are -/
theorem impl_comparator_not_transitive_counterexample :
    ¬ (∀ a b c : EV, cmpForSort a b ≠ .gt → cmpForSort b c ≠ .gt → cmpForSort a c ≠ .gt) := by
  intro h
  exact h (.int 2) .null (.int 1) (by decide) (by decide) (by decide)

open TurVerif.SqlCmp in
/-- `SortExecutor::compare_values`: mixed INT/DOUBLE pairs compare Equal, so it is not transitive
either (2 <= 1.5 <= 1 but not 2 <= 1) -/
theorem sortExec_comparator_not_transitive_counterexample :
    ¬ (∀ a b c : EV, cmpSortExec a b ≠ .gt → cmpSortExec b c ≠ .gt → cmpSortExec a c ≠ .gt) := by
  intro h
  exact h (.int 2) (.flt (3 / 2)) (.int 1) (by decide) (by decide) (by decide)

theorem ord_ne_gt {α : Type} [Ord α] [LE α] [Std.LawfulOrderOrd α] (a b : α) :
    compare a b ≠ .gt ↔ a ≤ b :=
  Ordering.ne_gt_iff_isLE.trans Std.isLE_compare

theorem ratCmp_ne_gt (a b : Rat) : SqlCmp.ratCmp a b ≠ .gt ↔ a ≤ b :=
  Ordering.ne_gt_iff_isLE.trans
    (isLE_compareOfLessAndEq Rat.le_antisymm Rat.not_le (fun _ _ => Rat.le_total))

theorem string_cmp_ne_gt (a b : String) : compare a b ≠ .gt ↔ a ≤ b :=
  Ordering.ne_gt_iff_isLE.trans
    (isLE_compareOfLessAndEq String.le_antisymm String.not_le String.le_total)

theorem bool_cmp_ne_gt (a b : Bool) : compare a b ≠ .gt ↔ a ≤ b := by
  cases a <;> cases b <;> decide

/-- the values of the comparator models as values of the reference semantics (BLOB is outside it) -/
def toVal : SqlCmp.EV → Option Val
  | .null => some .null
  | .bool b => some (.bool b)
  | .int i => some (.int i)
  | .flt q => some (.flt q)
  | .text s => some (.text s)
  | .blob _ => none

/-- `compare_owned_values` (the comparator of the join/subquery result path) refines the
specification order `Val.le` on every pair a typed column can hold: NULLs and values of one type
family (INT and DOUBLE together) -/
theorem cmpOwned_refines_spec (a b : SqlCmp.EV) (va vb : Val)
    (ha : toVal a = some va) (hb : toVal b = some vb)
    (hf : va = .null ∨ vb = .null ∨ va.rank = vb.rank) :
    SqlCmp.cmpOwned a b ≠ .gt ↔ Val.le va vb = true := by
  cases a <;> cases b <;> simp [toVal] at ha hb <;> subst ha <;> subst hb <;>
    simp [Val.rank] at hf <;>
    simp [SqlCmp.cmpOwned, Val.le, ratCmp_ne_gt, ord_ne_gt, string_cmp_ne_gt, bool_cmp_ne_gt]

theorem cmpForSort_eq_cmpOwned (a b : SqlCmp.EV) (va vb : Val)
    (ha : toVal a = some va) (hb : toVal b = some vb)
    (hna : va ≠ .null) (hnb : vb ≠ .null) (hbool : va.rank ≠ 1) (hf : va.rank = vb.rank) :
    SqlCmp.cmpForSort a b = SqlCmp.cmpOwned a b := by
  cases a <;> cases ha
  · exact absurd rfl hna
  · exact absurd rfl hbool
  -- `a` is INT, DOUBLE or TEXT: a `b` of another family is excluded by `hnb` or `hf`, and within
  -- one family both comparators take the same `match` arm
  all_goals
    cases b <;> cases hb <;>
      first
      | exact absurd rfl hnb
      | exact absurd hf (Nat.ne_of_beq_eq_false rfl)
      | rfl

/-- `Value::compare_for_sort` agrees with the specification order on non-NULL values of one type
family; on NULL it does not (`cmpForSort_null_equal`) -/
theorem cmpForSort_refines_spec_partial (a b : SqlCmp.EV) (va vb : Val)
    (ha : toVal a = some va) (hb : toVal b = some vb)
    (hna : va ≠ .null) (hnb : vb ≠ .null) (hbool : va.rank ≠ 1) (hf : va.rank = vb.rank) :
    SqlCmp.cmpForSort a b ≠ .gt ↔ Val.le va vb = true := by
  rw [cmpForSort_eq_cmpOwned a b va vb ha hb hna hnb hbool hf]
  exact cmpOwned_refines_spec a b va vb ha hb (.inr (.inr hf))

/-! ### non-vacuity: the hypotheses are satisfiable, the definitions compute -/
example : ∃ out, orderBy [⟨.col 0, false⟩, ⟨.col 1, true⟩] [[.int 2, .null], [.null, .text "a"]] = .ok out :=
  ⟨_, rfl⟩
example : distinct [[.int 2], [.null], [.flt 2], [.null]] = [[.int 2], [.null]] := by decide
example : limitOffset (some 2) 1 [[.int 1], [.int 2], [.int 3], [.int 4]] = [[.int 2], [.int 3]] := by decide
example : keysLe [(.int 1, false), (.null, true)] [(.flt 1, false), (.int 0, true)] = false := by decide

end TurVerif.C15
