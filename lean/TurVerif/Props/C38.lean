import TurVerif.Model.CommitOrder
import TurVerif.Model.CommitCover
import TurVerif.Lemmas.Run
/-!
C38  Concurrent commits log page images in commit order.
-/
namespace TurVerif.C38
open TurVerif.CommitOrder

/-- Invariant of the atomic-capture variant.  The fourth clause is what `atomic_replay_latest`
rests on: the current version is the last image of log ++ queue unless some committer is still at
`capture`; the fifth says that nobody is ever between capture and submit. -/
def OrdInv (s : State) : Prop :=
  s.atomic = true ∧
  (s.wal ++ s.pending).Pairwise (· ≤ ·) ∧
  (∀ x ∈ s.wal ++ s.pending, x ≤ s.page) ∧
  (0 < s.page → (Pc.capture ∈ s.threads) ∨ (s.wal ++ s.pending).getLast? = some s.page) ∧
  (∀ pc ∈ s.threads, ∀ img, pc ≠ .submit img)

theorem inv_init (n : Nat) : OrdInv (init true n) :=
  ⟨rfl, List.Pairwise.nil, nofun, fun h => absurd h (Nat.lt_irrefl 0),
    fun _ hpc _ => (List.eq_of_mem_replicate hpc) ▸ nofun⟩

theorem noSubmit_set {l : List Pc} (i : Nat) {a : Pc} (h : ∀ pc ∈ l, ∀ img, pc ≠ .submit img)
    (ha : ∀ img, a ≠ .submit img) : ∀ pc ∈ l.set i a, ∀ img, pc ≠ .submit img :=
  fun pc hpc => (List.mem_or_eq_of_mem_set hpc).elim (h pc) (· ▸ ha)

theorem inv_step (s s' : State) (tid : Nat) (h : OrdInv s) (hs : step s tid = some s') : OrdInv s' := by
  obtain ⟨ha, hp, hle, hlast, hns⟩ := h
  revert hs
  fun_cases step s tid
  -- no such committer (1), committer done (7): no step
  case case1 | case7 => nofun
  case case2 hpc =>
    -- modify: the committer that raised the version is now at `capture`
    intro hs; cases hs
    exact ⟨ha, hp, fun x hx => Nat.le_succ_of_le (hle x hx),
      fun _ => .inl (List.mem_iff_getElem?.mpr
        ⟨tid, List.getElem?_set_self (List.getElem?_eq_some_iff.mp hpc).1⟩),
      noSubmit_set tid hns nofun⟩
  case case3 hpc =>
    -- capture and submit in one step: the current version goes to the end of the queue
    intro hs; cases hs
    unfold OrdInv
    dsimp only
    rw [← List.append_assoc]
    refine ⟨ha, List.pairwise_append.mpr ⟨hp, List.pairwise_singleton ..,
      fun a ha' b hb => List.mem_singleton.mp hb ▸ hle a ha'⟩, fun x hx => ?_,
      fun _ => .inr List.getLast?_concat, noSubmit_set tid hns nofun⟩
    rcases List.mem_append.mp hx with h | h
    · exact hle x h
    · exact Nat.le_of_eq (List.mem_singleton.mp h)
  -- capture without submit (4) is the non-atomic variant; nobody is at `submit` (5) in the atomic one
  case case4 hna _ => exact absurd ha hna
  case case5 img hpc => exact absurd rfl (hns _ (List.mem_of_getElem? hpc) img)
  case case6 hpc =>
    -- waitFlush: the queue moves to the WAL; committers at `capture` stay there
    intro hs; cases hs
    unfold OrdInv
    dsimp only
    rw [List.append_nil]
    refine ⟨ha, hp, hle, fun hpos => (hlast hpos).imp (fun h => ?_) id, ?_⟩
    · obtain ⟨i, hi⟩ := List.mem_iff_getElem?.mp h
      have hne : tid ≠ i := fun e => by subst e; cases hpc.symm.trans hi
      exact List.mem_map.mpr ⟨.capture,
        List.mem_iff_getElem?.mpr ⟨i, (List.getElem?_set_ne hne).trans hi⟩, rfl⟩
    · intro pc' hpc' img
      obtain ⟨q, hq, rfl⟩ := List.mem_map.mp hpc'
      split
      · nofun
      · exact noSubmit_set (a := .done) tid hns nofun q hq img

theorem inv_reachable (n : Nat) (sched : List Nat) : OrdInv (run (init true n) sched) :=
  Run.invariant step run (fun _ => rfl) (fun _ _ _ => rfl) (inv_step _ _ _) sched (inv_init n)

/-- If capture and submit are ONE atomic step, then for every number of committers and every
schedule the images reach the queue/WAL in non-decreasing version order and never exceed the
in-place version. -/
theorem atomic_wal_sorted (n : Nat) (sched : List Nat) :
    let s := run (init true n) sched
    (s.wal ++ s.pending).Pairwise (· ≤ ·) ∧ ∀ x ∈ s.wal ++ s.pending, x ≤ s.page :=
  let h := inv_reachable n sched
  ⟨h.2.1, h.2.2.1⟩

/-- … and once every committer is done, the last logged image is the latest committed version. -/
theorem atomic_replay_latest (n : Nat) (sched : List Nat)
    (hq : quiescent (run (init true n) sched) = true) (hpos : 0 < (run (init true n) sched).page) :
    ((run (init true n) sched).wal ++ (run (init true n) sched).pending).getLast?
      = some (run (init true n) sched).page := by
  have h := inv_reachable n sched
  rcases h.2.2.2.1 hpos with hc | hl
  · exfalso
    simp only [quiescent, List.all_eq_true] at hq
    have := hq _ hc
    simp at this
  · exact hl

/-- A modifies the page (v1) and captures v1; B modifies it (v2), captures v2 and submits first;
A submits its stale v1 afterwards; the leader writes [v2, v1]; replay ends with v1 although the
committed page is v2. -/
def cexSched : List Nat := [0, 0, 1, 1, 1, 0, 0]

theorem stale_image_counterexample :
    let s := run (init false 2) cexSched
    quiescent s = true ∧ s.page = 2 ∧ s.wal = [2, 1] ∧ replayed s = some 1 := by decide

/-- with capture and submit in one atomic step the same interleaving is fine -/
theorem atomic_same_schedule_fine :
    let s := run (init true 2) cexSched
    s.wal = [1, 2] ∧ replayed s = some 2 := by decide

end TurVerif.C38

/-! ## Second clause: which pages a commit covers (`TurVerif.CommitCover`) -/
namespace TurVerif.C38
open TurVerif.CommitCover

theorem getVer_setVer_same (m : List (PageId × Nat)) (pg : PageId) (v : Nat) :
    getVer (setVer m pg v) pg = v := by
  induction m with
  | nil => simp [setVer, getVer]
  | cons a rest ih =>
    obtain ⟨q, w⟩ := a
    by_cases h : q = pg
    · simp [setVer, getVer, h]
    · simp [setVer, getVer, h, ih]

theorem getVer_setVer_other (m : List (PageId × Nat)) (q pg : PageId) (v : Nat) (h : q ≠ pg) :
    getVer (setVer m q v) pg = getVer m pg := by
  induction m with
  | nil => simp [setVer, getVer, h]
  | cons a rest ih =>
    obtain ⟨r, w⟩ := a
    by_cases hr : r = q
    · subst hr; simp [setVer, getVer, h]
    · by_cases hp : r = pg
      · subst hp; simp [setVer, getVer, hr]
      · simp [setVer, getVer, hr, hp, ih]

theorem mem_markDirty_self (d : List PageId) (pg : PageId) : pg ∈ markDirty d pg := by
  unfold markDirty
  split
  · rename_i h; simpa using h
  · simp

theorem mem_markDirty_of_mem (d : List PageId) (pg q : PageId) (h : q ∈ d) : q ∈ markDirty d pg := by
  unfold markDirty
  split
  · exact h
  · simp [h]

def isWrite : Op → Bool
  | .write _ _ => true
  | _ => false

theorem run_append (s : St) (l1 l2 : List Op) : run s (l1 ++ l2) = run (run s l1) l2 := by
  induction l1 generalizing s with
  | nil => rfl
  | cons a r ih => exact ih _

theorem run_induct {P : St → Prop} {Q : Op → Prop} (hstep : ∀ s op, Q op → P s → P (step s op)) :
    ∀ (ops : List Op) (s : St), (∀ op ∈ ops, Q op) → P s → P (run s ops)
  | [], _, _, h => h
  | op :: ops, s, hq, h =>
    run_induct hstep ops _ (fun o ho => hq o (List.mem_cons_of_mem _ ho))
      (hstep s op (hq op List.mem_cons_self) h)

/-- writes never remove a page from the dirty tracker -/
theorem dirty_mono_writes (s : St) (ops : List Op) (hw : ∀ op ∈ ops, isWrite op = true) (q : PageId)
    (h : q ∈ s.dirty) : q ∈ (run s ops).dirty := by
  refine run_induct (P := fun s => q ∈ s.dirty) (fun s op hop h => ?_) ops s hw h
  cases op with
  | write pg w => cases w <;> first | exact h | exact mem_markDirty_of_mem _ _ _ h
  | drain f => cases hop
  | clear f => cases hop

/-- a page written through the wrapped storage is in the dirty tracker until the next drain -/
theorem wrapped_write_marks_dirty (s : St) (ops : List Op) (hw : ∀ op ∈ ops, isWrite op = true)
    (pg : PageId) (h : Op.write pg true ∈ ops) : pg ∈ (run s ops).dirty := by
  induction ops generalizing s with
  | nil => cases h
  | cons op rest ih =>
    have hrest : ∀ o ∈ rest, isWrite o = true := fun o ho => hw o (List.mem_cons_of_mem _ ho)
    rcases List.mem_cons.mp h with h | h
    · subst h
      exact dirty_mono_writes _ rest hrest pg (mem_markDirty_self s.dirty pg)
    · exact ih _ hrest h

/-- draining a table logs the CURRENT image of each of its dirty pages -/
theorem drain_covers (s : St) (pg : PageId) (h : pg ∈ s.dirty) :
    covered (step s (.drain pg.1)) pg = true := by
  simp only [covered, step, drained, List.contains_eq_mem, List.mem_append, List.mem_map,
    List.mem_filter, decide_eq_true_eq]
  exact .inr ⟨pg, ⟨h, beq_self_eq_true _⟩, rfl⟩

/-- later drains / clears do not touch page contents and only append to the log -/
theorem covered_mono (s : St) (op : Op) (hnw : isWrite op = false) (pg : PageId)
    (h : covered s pg = true) : covered (step s op) pg = true := by
  cases op with
  | write q w => cases hnw
  | drain f =>
    simp only [covered, step, List.contains_eq_mem, List.mem_append, decide_eq_true_eq] at h ⊢
    exact Or.inl h
  | clear f => exact h

theorem covered_mono_run (s : St) (ops : List Op) (hnw : ∀ op ∈ ops, isWrite op = false) (pg : PageId)
    (h : covered s pg = true) : covered (run s ops) pg = true :=
  run_induct (P := fun s => covered s pg = true) (fun s op hop h => covered_mono s op hop pg h)
    ops s hnw h

/-- SECOND CLAUSE, the part the code's protocol guarantees: a unit of page writes followed by the
drain of a table covers every page of that table that was written through the WAL-wrapped storage,
whatever else was written and however the state looked before -/
theorem unit_then_drain_covers_wrapped (s : St) (writes : List Op)
    (hw : ∀ op ∈ writes, isWrite op = true) (pg : PageId) (h : Op.write pg true ∈ writes) :
    covered (run s (writes ++ [.drain pg.1])) pg = true := by
  rw [run_append]
  exact drain_covers _ pg (wrapped_write_marks_dirty s writes hw pg h)

/-- draining a list of tables that contains the page's table covers a dirty page, wherever the
table stands in the list and whatever else is drained -/
theorem drain_list_covers (fs : List Nat) (s : St) (pg : PageId) (h : pg ∈ s.dirty) (hf : pg.1 ∈ fs) :
    covered (run s (fs.map .drain)) pg = true := by
  induction fs generalizing s with
  | nil => cases hf
  | cons f rest ih =>
    by_cases e : f = pg.1
    · subst e
      exact covered_mono_run (step s (.drain pg.1)) (rest.map .drain)
        (fun op hop => by obtain ⟨g, _, rfl⟩ := List.mem_map.mp hop; rfl) pg (drain_covers s pg h)
    · -- the drain of another table keeps `pg` dirty
      refine ih _ (List.mem_filter.mpr ⟨h, ?_⟩) ((List.mem_cons.mp hf).resolve_left (Ne.symm e))
      exact bne_iff_ne.mpr (Ne.symm e)

/-- a drain of table `f` covers a dirty page of `f` also when other drains follow (COMMIT drains
every dirty table, one after the other) -/
theorem drains_cover (s : St) (pg : PageId) (h : pg ∈ s.dirty) (before after : List Nat)
    (hb : pg.1 ∉ before) :
    covered (run s (before.map .drain ++ [.drain pg.1] ++ after.map .drain)) pg = true := by
  have := drain_list_covers (before ++ pg.1 :: after) s pg h
    (List.mem_append_right _ List.mem_cons_self)
  rwa [List.map_append, List.map_cons, ← List.singleton_append, ← List.append_assoc] at this

/-- COMMIT of a transaction (`commitAll`: every table that has dirty pages is drained) covers every
page that is dirty at that moment, i.e. every page written through the wrapped storage since its
table was last drained -/
theorem commit_all_covers (s : St) (pg : PageId) (h : pg ∈ s.dirty) :
    covered (run s (commitAll s)) pg = true :=
  drain_list_covers _ s pg h (List.mem_eraseDups.mpr (List.mem_map.mpr ⟨pg, h, rfl⟩))

/-- invariant of every reachable state: no logged image is newer than the page -/
def WalLe (s : St) : Prop := ∀ x ∈ s.wal, x.2 ≤ getVer s.ver x.1

theorem walLe_step (s : St) (op : Op) (h : WalLe s) : WalLe (step s op) := by
  cases op with
  | write pg w =>
    intro x hx
    simp only [step] at hx ⊢
    by_cases e : pg = x.1
    · subst e; rw [getVer_setVer_same]; exact Nat.le_succ_of_le (h x hx)
    · rw [getVer_setVer_other _ _ _ _ e]; exact h x hx
  | drain f =>
    intro x hx
    simp only [step, List.mem_append, List.mem_map] at hx ⊢
    rcases hx with hx | ⟨q, _, rfl⟩
    · exact h x hx
    · exact Nat.le_refl _
  | clear f => intro x hx; exact h x (by simpa [step] using hx)

theorem walLe_reachable (ops : List Op) : WalLe (run {} ops) :=
  run_induct (Q := fun _ => True) (fun s op _ => walLe_step s op) ops _ (fun _ _ => trivial) nofun

/-- SECOND CLAUSE, where the code falls short: a page written through an UNWRAPPED storage (index
file, header page) while it is not in the dirty tracker is not covered, however many drains the
commit performs -/
theorem unwrapped_write_not_covered (s : St) (hle : WalLe s) (pg : PageId) (hnd : pg ∉ s.dirty)
    (drains : List Op) (hd : ∀ op ∈ drains, isWrite op = false) :
    covered (run (step s (.write pg false)) drains) pg = false := by
  -- along the drains `pg` stays clean, its version stays `v + 1`, every logged image of it is ≤ `v`
  let K (t : St) : Prop := pg ∉ t.dirty ∧ getVer t.ver pg = getVer s.ver pg + 1 ∧
    ∀ x ∈ t.wal, x.1 = pg → x.2 ≤ getVer s.ver pg
  have hK : K (run (step s (.write pg false)) drains) := by
    refine run_induct (P := K) (fun t op hop ⟨h1, h2, h3⟩ => ?_) drains _ hd
      ⟨hnd, getVer_setVer_same .., fun x hx hxp => hxp ▸ hle x hx⟩
    cases op with
    | write q w => cases hop
    | drain f =>
      refine ⟨fun hm => h1 (List.mem_filter.mp hm).1, h2, fun x hx hxp => ?_⟩
      rcases List.mem_append.mp hx with hx | hx
      · exact h3 x hx hxp
      · obtain ⟨q, hq, rfl⟩ := List.mem_map.mp hx
        exact absurd (hxp ▸ (List.mem_filter.mp hq).1) h1
    | clear f => exact ⟨fun hm => h1 (List.mem_filter.mp hm).1, h2, h3⟩
  obtain ⟨_, h2, h3⟩ := hK
  simp only [covered, List.contains_eq_mem, decide_eq_false_iff_not]
  intro hm
  have := h3 _ hm rfl
  rw [h2] at this
  exact Nat.not_succ_le_self _ this

/-- index page written next to a table page; the statement drains the table: the index page's
image is in no frame (C01/C02 finding "index pages bypass the WAL", seen from the commit side) -/
theorem index_page_uncovered_counterexample :
    let s := run {} [.write (1, 1) true, .write (2, 1) false, .drain 1]
    covered s (1, 1) = true ∧ covered s (2, 1) = false := by decide

/-- autocommit UPDATE of a TOAST-sized value: the TOAST page IS marked dirty (table 4) but the
statement drains only its own table (1); the TOAST page stays uncovered until some later COMMIT
drains every dirty table -/
theorem toast_page_not_drained_counterexample :
    let s := run {} [.write (1, 1) true, .write (4, 1) true, .drain 1]
    covered s (4, 1) = false ∧ covered (run s (commitAll s)) (4, 1) = true := by decide

end TurVerif.C38
