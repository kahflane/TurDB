import TurVerif.Model.SqlJoin
import TurVerif.Lemmas.ListAux
import TurVerif.Lemmas.SqlBasic
/-!
C17  Hash join / grace hash join produce the SQL-defined join result.

Theorems about the M-code model `TurVerif.SqlJoin` (`hashJoin`, `graceJoin`: transcriptions of
`StreamingHashJoin` / `GraceHashJoin`) against the M-spec `nlJoinP` (nested loop over a match
predicate) and the shared reference semantics `TurVerif.Sql.join`.
-/
namespace TurVerif.C17
open TurVerif.Sql TurVerif.SqlJoin

/-- `probeOut` with the bucket lookup replaced by a match predicate -/
def pProbe (k : JoinKind) (m : Row → Row → Bool) (wl : Nat) (build : List Row) (p : Row) :
    List Row :=
  let ms := build.filter fun b => m b p
  if ms.isEmpty then (if isRightish k then [nulls wl ++ p] else []) else ms.map fun b => b ++ p

/-- `buildUnmatched` over a match predicate -/
def pUnmatched (k : JoinKind) (m : Row → Row → Bool) (wr : Nat) (build probe : List Row) :
    List Row :=
  if isLeftish k then
    (build.filter fun b => !(probe.any fun p => m b p)).map fun b => b ++ nulls wr
  else []

/-- `hashJoin` over a match predicate -/
def pJoin (k : JoinKind) (m : Row → Row → Bool) (wl wr : Nat) (build probe : List Row) :
    List Row :=
  probe.flatMap (pProbe k m wl build) ++ pUnmatched k m wr build probe

theorem hashJoin_eq_pJoin (k : JoinKind) (h : List Val → Nat) (lk rk : List Nat) (wl wr : Nat)
    (L R : List Row) : hashJoin k h lk rk wl wr L R = pJoin k (hashMatch h lk rk) wl wr L R := rfl

theorem pJoin_congr {k : JoinKind} {m m' : Row → Row → Bool} {wl wr : Nat} {L R : List Row}
    (h : ∀ l ∈ L, ∀ r ∈ R, m l r = m' l r) : pJoin k m wl wr L R = pJoin k m' wl wr L R := by
  have e1 : ∀ p ∈ R, pProbe k m wl L p = pProbe k m' wl L p := fun p hp => by
    unfold pProbe; rw [List.filter_congr fun b hb => h b hb p hp]
  have e2 : ∀ b ∈ L, (!(R.any fun p => m b p)) = !(R.any fun p => m' b p) := fun b hb => by
    rw [any_congr_mem fun p hp => h b hb p hp]
  unfold pJoin pUnmatched
  rw [flatMap_congr_mem e1, List.filter_congr e2]

/-- the hash function does not separate rows whose keys match: what a bucket lookup needs in order
to find every match (`Value::hash_to` fails it for equal INT and DOUBLE keys) -/
def HCompat (h : List Val → Nat) (lk rk : List Nat) (L R : List Row) : Prop :=
  ∀ l ∈ L, ∀ r ∈ R, keysMatch lk rk l r = true → h (keyVals lk l) = h (keyVals rk r)

theorem hashMatch_eq_keysMatch {h : List Val → Nat} {lk rk : List Nat} {L R : List Row}
    (H : HCompat h lk rk L R) (l : Row) (hl : l ∈ L) (r : Row) (hr : r ∈ R) :
    hashMatch h lk rk l r = keysMatch lk rk l r := by
  cases hk : keysMatch lk rk l r
  · simp [hashMatch, hk]
  · simp [hashMatch, hk, H l hl r hr hk]

section
variable (k : JoinKind) (m : Row → Row → Bool) (wl wr : Nat) (L R : List Row)

theorem probe_perm :
    (R.flatMap (pProbe k m wl L)).Perm
      (nlInner m L R ++ if isRightish k then nlRightOnly m wl L R else []) := by
  unfold pProbe
  refine (flatMap_default_perm R _ _ _ fun p => List.isEmpty_map.symm).trans
    (List.Perm.append ?_ ?_)
  · -- matched pairs: loop swap
    simp only [nlInner, nlMatches, List.map_eq_flatMap, filter_flatMap_ite]
    exact (flatMap_swap L R fun l r => if m l r then [l ++ r] else []).symm
  · -- probe rows without a match
    cases isRightish k
    · simp only [Bool.false_eq_true, if_false, flatMap_nil_fn]
      exact List.Perm.refl _
    · simp only [isEmpty_filter, if_true, nlRightOnly, List.map_eq_flatMap]
      exact List.Perm.refl _

theorem nlLeft_perm :
    (nlLeft m wr L R).Perm
      (nlInner m L R ++ (L.filter fun l => !(R.any fun r => m l r)).map fun l => l ++ nulls wr) := by
  refine (flatMap_default_perm L _ _ _ fun _ => rfl).trans ?_
  rw [List.map_eq_flatMap]
  simp only [nlInner, nlMatches, List.isEmpty_map, isEmpty_filter]
  exact List.Perm.refl _

/-- the join kinds with an ON condition differ only in which unmatched rows are kept -/
theorem nlJoinP_eq_flags (hk : k ≠ .cross) : nlJoinP k m wl wr L R =
      (if isLeftish k then nlLeft m wr L R else nlInner m L R) ++
        if isRightish k then nlRightOnly m wl L R else [] := by
  cases k <;> first | exact absurd rfl hk | rfl | exact (List.append_nil _).symm

theorem pJoin_perm_nl (hk : k ≠ .cross) :
    (pJoin k m wl wr L R).Perm (nlJoinP k m wl wr L R) := by
  rw [nlJoinP_eq_flags k m wl wr L R hk]
  unfold pJoin pUnmatched
  refine ((probe_perm k m wl L R).append_right _).trans ?_
  cases isLeftish k
  · rw [if_neg Bool.false_ne_true, if_neg Bool.false_ne_true, List.append_nil]
  · -- the unmatched left rows move from the end into `nlLeft`
    rw [if_pos rfl, if_pos rfl, List.append_assoc]
    refine .trans ?_ ((nlLeft_perm m wr L R).symm.append_right _)
    rw [List.append_assoc]
    exact List.Perm.append_left _ List.perm_append_comm

theorem pUnmatched_eq_flatMap :
    pUnmatched k m wr L R = L.flatMap fun b =>
      if isLeftish k && !(R.any fun p => m b p) then [b ++ nulls wr] else [] := by
  unfold pUnmatched
  cases isLeftish k
  · simp only [Bool.false_eq_true, if_false, Bool.false_and, flatMap_nil_fn]
  · simp only [if_true, Bool.true_and, List.map_eq_flatMap, filter_flatMap_ite]

/-- joining one partition pair: if matching rows lie in the same class, the probe rows of class `q`
see exactly their matches in the whole build side, and a build row of class `q` is matched in its
partition iff it is matched at all -/
theorem pJoin_partition_eq
    (fL fR : Row → Nat) (hc : ∀ l ∈ L, ∀ r ∈ R, m l r = true → fL l = fR r) (q : Nat) :
    pJoin k m wl wr (L.filter fun l => fL l == q) (R.filter fun r => fR r == q) =
      (R.filter fun r => fR r == q).flatMap (pProbe k m wl L) ++
        (L.filter fun l => fL l == q).flatMap fun b =>
          if isLeftish k && !(R.any fun p => m b p) then [b ++ nulls wr] else [] := by
  unfold pJoin
  rw [pUnmatched_eq_flatMap]
  congr 1
  · refine flatMap_congr_mem fun p hp => ?_
    obtain ⟨hpR, hpq⟩ := List.mem_filter.mp hp
    unfold pProbe
    rw [List.filter_filter, List.filter_congr fun b hb => ?_]
    cases hm : m b p
    · rfl
    · rw [hc b hb p hpR hm, hpq]; rfl
  · refine flatMap_congr_mem fun b hb => ?_
    obtain ⟨hbL, hbq⟩ := List.mem_filter.mp hb
    rw [List.any_filter, any_congr_mem fun r hr => ?_]
    cases hm : m b r
    · exact Bool.and_false _
    · rw [← hc b hbL r hr hm, hbq]; rfl

theorem pJoin_partition_perm
    (n : Nat) (fL fR : Row → Nat) (hL : ∀ l ∈ L, fL l < n) (hR : ∀ r ∈ R, fR r < n)
    (hc : ∀ l ∈ L, ∀ r ∈ R, m l r = true → fL l = fR r) :
    ((List.range n).flatMap fun q =>
      pJoin k m wl wr (L.filter fun l => fL l == q) (R.filter fun r => fR r == q)).Perm
      (pJoin k m wl wr L R) := by
  rw [funext (pJoin_partition_eq k m wl wr L R fL fR hc)]
  refine (flatMap_append_perm _ _ _).trans ?_
  unfold pJoin
  rw [pUnmatched_eq_flatMap]
  exact (regroup_perm n fR _ R hR).append (regroup_perm n fL _ L hL)

end

/-- the grace hash join emits the rows of the streaming hash join, for every hash function: rows
that `hashMatch` pairs have equal hashes, so they meet in one partition -/
theorem grace_perm_hash {n : Nat} {sp : Row → Row} (k : JoinKind) (h : List Val → Nat)
    (lk rk : List Nat) (wl wr : Nat) (L R : List Row) (hn : 0 < n) (hsp : ∀ r, sp r = r) :
    (graceJoin n sp k h lk rk wl wr L R).Perm (hashJoin k h lk rk wl wr L R) := by
  have hid : sp = id := funext hsp
  unfold graceJoin partition
  simp only [hid, List.map_id, hashJoin_eq_pJoin]
  refine pJoin_partition_perm k _ wl wr L R n _ _ (fun l _ => Nat.mod_lt _ hn)
    (fun r _ => Nat.mod_lt _ hn) (fun l _ r _ hm => ?_)
  rw [(Bool.and_eq_true_iff.mp hm).1 |> beq_iff_eq.mp]

/-- the four join kinds with an equi-join key -/
def JK4 (k : JoinKind) : Prop := k = .inner ∨ k = .left ∨ k = .right ∨ k = .full

theorem JK4_iff (k : JoinKind) : JK4 k ↔ k ≠ .cross := by
  cases k <;> simp [JK4]

theorem keyValEq_iff {a b : Val} : keyValEq a b = true ↔ Val.cmp a b = .ok (some .eq) := by
  unfold keyValEq
  split <;> simp_all

theorem keyValEq_null_left (b : Val) : keyValEq .null b = false := rfl

theorem keyValEq_null_right (a : Val) : keyValEq a .null = false := by
  cases a <;> rfl

theorem keysMatchGo_cons_iff {l r : Row} {li ri : Nat} {ls rs : List Nat} :
    keysMatchGo l r (li :: ls) (ri :: rs) = true ↔
      ∃ a b, l[li]? = some a ∧ r[ri]? = some b ∧ keyValEq a b = true ∧
        keysMatchGo l r ls rs = true := by
  rw [keysMatchGo, Bool.and_eq_true]
  constructor
  · rintro ⟨h1, h2⟩
    split at h1
    · exact ⟨_, _, ‹_›, ‹_›, h1, h2⟩
    · cases h1
  · rintro ⟨a, b, ha, hb, h1, h2⟩
    rw [ha, hb]
    exact ⟨h1, h2⟩

theorem matchesOf_eq {on : Expr} {m : Row → Row → Bool} {l : Row} {R : List Row}
    (H : ∀ r ∈ R, keeps on (l ++ r) = .ok (m l r)) :
    matchesOf on l R = .ok (nlMatches m l R) :=
  matchesOf_ok_iff.mpr
    ⟨by rw [nlMatches, List.filter_congr fun r hr => kept_of_keeps (H r hr)],
      fun r hr => (kept_of_keeps (H r hr)).symm ▸ H r hr⟩

theorem hasMatch_eq {on : Expr} {m : Row → Row → Bool} {L : List Row} {r : Row}
    (H : ∀ l ∈ L, keeps on (l ++ r) = .ok (m l r)) :
    hasMatch on L r = .ok (L.any fun l => m l r) := by
  induction L with
  | nil => rfl
  | cons l t ih =>
    rw [List.forall_mem_cons] at H
    simp only [hasMatch, H.1, ih H.2, List.any_cons]

section
variable {on : Expr} {m : Row → Row → Bool} {L R : List Row}
  (H : ∀ l ∈ L, ∀ r ∈ R, keeps on (l ++ r) = .ok (m l r))
include H

theorem innerJoin_eq : innerJoin on L R = .ok (nlInner m L R) :=
  innerJoin_ok_iff.mpr
    ⟨flatMap_congr_mem fun l hl => by
      rw [nlMatches, List.filter_congr fun r hr => kept_of_keeps (H l hl r hr)],
      fun l hl r hr => (kept_of_keeps (H l hl r hr)).symm ▸ H l hl r hr⟩

theorem leftJoin_eq {wr : Nat} : leftJoin on wr L R = .ok (nlLeft m wr L R) := by
  induction L with
  | nil => rfl
  | cons l t ih =>
    rw [List.forall_mem_cons] at H
    simp only [leftJoin, matchesOf_eq H.1, ih H.2, nlLeft, List.flatMap_cons]

theorem rightOnly_eq {wl : Nat} : rightOnly on wl L R = .ok (nlRightOnly m wl L R) := by
  induction R with
  | nil => rfl
  | cons r t ih =>
    have h1 : hasMatch on L r = .ok (L.any fun l => m l r) :=
      hasMatch_eq (fun l hl => H l hl r List.mem_cons_self)
    have h2 := ih (fun l hl x hx => H l hl x (List.mem_cons_of_mem _ hx))
    simp only [rightOnly, h1, h2, nlRightOnly, List.filter_cons]
    cases (L.any fun l => m l r) <;> rfl

end

theorem isTrue_and (x y : Tri) : (x.and y).isTrue = (x.isTrue && y.isTrue) := by
  cases x <;> cases y <;> rfl

/-- the 3VL truth of `a = b` is TRUE exactly when `Value::compare` says Equal -/
theorem cmpVals_eq {a b : Val} {o : Option Ordering} (hc : Val.cmp a b = .ok o) :
    ∃ x : Tri, cmpVals .eq a b = .ok (Val.ofTri x) ∧ x.isTrue = keyValEq a b := by
  unfold cmpVals keyValEq
  rw [hc]
  cases o with
  | none => exact ⟨.u, rfl, rfl⟩
  | some ord =>
    cases ord
    · exact ⟨.f, rfl, rfl⟩
    · exact ⟨.t, rfl, rfl⟩
    · exact ⟨.f, rfl, rfl⟩

theorem eval_eqCols {l r : Row} {wl li ri : Nat} {a b : Val}
    (hw : l.length = wl) (ha : l[li]? = some a) (hb : r[ri]? = some b) :
    eval (l ++ r) (.bin .eq (.col li) (.col (wl + ri))) = cmpVals .eq a b := by
  simp only [eval, getElem?_append_left_of_some ha, getElem?_append_right_add hw, hb]

theorem eval_eqOn {l r : Row} {wl : Nat} (hw : l.length = wl) (lk rk : List Nat)
    (H : ∀ p ∈ lk.zip rk, ∃ a b o, l[p.1]? = some a ∧ r[p.2]? = some b ∧ Val.cmp a b = .ok o) :
    ∃ tv : Tri, eval (l ++ r) (eqOn wl lk rk) = .ok (Val.ofTri tv) ∧
      tv.isTrue = keysMatchGo l r lk rk := by
  fun_induction eqOn wl lk rk with
  | case1 li ls ri rs ih =>
    rw [List.zip_cons_cons, List.forall_mem_cons] at H
    obtain ⟨a, b, o, ha, hb, hc⟩ := H.1
    obtain ⟨x, hx, hxt⟩ := cmpVals_eq hc
    obtain ⟨tv, ht, htt⟩ := ih H.2
    refine ⟨x.and tv, ?_, ?_⟩
    · rw [eval, eval_eqCols hw ha hb, hx, ht]
      simp only [Val.truth_ofTri]
    · rw [isTrue_and, hxt, htt, keysMatchGo, ha, hb]
  | case2 lk rk hne =>
    -- one key list has run out: both sides say TRUE
    refine ⟨.t, rfl, ?_⟩
    unfold keysMatchGo
    split
    · exact absurd rfl (hne _ _ _ _ rfl)
    · rfl

theorem keysMatch_null_left {l r : Row} {li ri : Nat} {lk rk : List Nat}
    (hl : l[li]? = some .null) : keysMatch (li :: lk) (ri :: rk) l r = false := by
  refine Bool.eq_false_iff.mpr fun h => ?_
  obtain ⟨a, b, ha, _, hab, _⟩ := keysMatchGo_cons_iff.mp (Bool.and_eq_true_iff.mp h).2
  cases hl.symm.trans ha
  rw [keyValEq_null_left] at hab; cases hab

theorem keysMatch_null_right {l r : Row} {li ri : Nat} {lk rk : List Nat}
    (hr : r[ri]? = some .null) : keysMatch (li :: lk) (ri :: rk) l r = false := by
  refine Bool.eq_false_iff.mpr fun h => ?_
  obtain ⟨a, b, _, hb, hab, _⟩ := keysMatchGo_cons_iff.mp (Bool.and_eq_true_iff.mp h).2
  cases hr.symm.trans hb
  rw [keyValEq_null_right] at hab; cases hab

theorem hash_eq_nl {k : JoinKind} {h : List Val → Nat} {lk rk : List Nat} {wl wr : Nat}
    {L R : List Row} (hk : k ≠ .cross) (H : HCompat h lk rk L R) :
    (hashJoin k h lk rk wl wr L R).Perm (nlJoinP k (keysMatch lk rk) wl wr L R) := by
  rw [hashJoin_eq_pJoin, pJoin_congr (hashMatch_eq_keysMatch H)]
  exact pJoin_perm_nl k _ wl wr L R hk

theorem hash_eq_nl_inner {h : List Val → Nat} {lk rk : List Nat} {wl wr : Nat} {L R : List Row}
    (H : HCompat h lk rk L R) :
    (hashJoin .inner h lk rk wl wr L R).Perm (nlInner (keysMatch lk rk) L R) :=
  hash_eq_nl (by decide) H

theorem hash_eq_nl_left {h : List Val → Nat} {lk rk : List Nat} {wl wr : Nat} {L R : List Row}
    (H : HCompat h lk rk L R) :
    (hashJoin .left h lk rk wl wr L R).Perm (nlLeft (keysMatch lk rk) wr L R) :=
  hash_eq_nl (by decide) H

theorem grace_eq_nl {n : Nat} {sp : Row → Row} {k : JoinKind} {h : List Val → Nat}
    {lk rk : List Nat} {wl wr : Nat} {L R : List Row} (hn : 0 < n) (hsp : ∀ r, sp r = r)
    (hk : k ≠ .cross) (H : HCompat h lk rk L R) :
    (graceJoin n sp k h lk rk wl wr L R).Perm (nlJoinP k (keysMatch lk rk) wl wr L R) :=
  (grace_perm_hash k h lk rk wl wr L R hn hsp).trans (hash_eq_nl hk H)

/-- a hash function that, like `Value::hash_to`, separates `Int(1)` from `Float(1.0)` -/
def splitHash : List Val → Nat
  | [.int _] => 0
  | _ => 1

/-- the hypothesis `HCompat` of `hash_eq_nl` / `grace_eq_nl` is necessary: under a hash that
separates `Int(1)` from `Float(1.0)` both operators lose the pair that `keys_match_static` accepts -/
theorem grace_hash_incompatible_counterexample :
    keysMatch [0] [0] [.int 1] [.flt 1] = true ∧
    nlJoinP .inner (keysMatch [0] [0]) 1 1 [[.int 1]] [[.flt 1]] = [[.int 1, .flt 1]] ∧
    graceJoin 2 id .inner splitHash [0] [0] 1 1 [[.int 1]] [[.flt 1]] = [] ∧
    hashJoin .inner splitHash [0] [0] 1 1 [[.int 1]] [[.flt 1]] = [] ∧
    ¬ HCompat splitHash [0] [0] [[.int 1]] [[.flt 1]] := by
  refine ⟨by decide, by decide, by decide, by decide, fun H => ?_⟩
  exact absurd (H [.int 1] List.mem_cons_self [.flt 1] List.mem_cons_self (by decide)) (by decide)

theorem nl_eq_sql_join {k : JoinKind} {on : Expr} {m : Row → Row → Bool} {wl wr : Nat}
    {L R : List Row} (hk : k ≠ .cross)
    (H : ∀ l ∈ L, ∀ r ∈ R, keeps on (l ++ r) = .ok (m l r)) :
    TurVerif.Sql.join k on wl wr L R = .ok (nlJoinP k m wl wr L R) := by
  cases k with
  | cross => exact absurd rfl hk
  | inner => exact innerJoin_eq H
  | left => exact leftJoin_eq H
  | right => simp only [join, innerJoin_eq H, rightOnly_eq H, nlJoinP]
  | full => simp only [join, leftJoin_eq H, rightOnly_eq H, nlJoinP]

theorem nl_cross_eq_sql_join {on : Expr} {m : Row → Row → Bool} {wl wr : Nat} {L R : List Row} :
    TurVerif.Sql.join .cross on wl wr L R = .ok (nlJoinP .cross m wl wr L R) :=
  innerJoin_eq fun _ _ _ _ => keeps_of_eval (tv := .t) rfl

/-- key lists of equal length, every key index in range, every compared pair type-compatible -/
theorem keeps_eqOn {l r : Row} {wl : Nat} {lk rk : List Nat} (hw : l.length = wl)
    (hlen : lk.length = rk.length)
    (H : ∀ p ∈ lk.zip rk, ∃ a b o, l[p.1]? = some a ∧ r[p.2]? = some b ∧ Val.cmp a b = .ok o) :
    keeps (eqOn wl lk rk) (l ++ r) = .ok (keysMatch lk rk l r) := by
  obtain ⟨tv, ht, htt⟩ := eval_eqOn hw lk rk H
  rw [keeps_of_eval ht, htt, keysMatch, hlen, beq_self_eq_true, Bool.true_and]

theorem keeps_eqOn_single {l r : Row} {wl li ri : Nat} {a b : Val} {o : Option Ordering}
    (hw : l.length = wl) (ha : l[li]? = some a) (hb : r[ri]? = some b)
    (hc : Val.cmp a b = .ok o) :
    keeps (eqOn wl [li] [ri]) (l ++ r) = .ok (keysMatch [li] [ri] l r) :=
  keeps_eqOn hw rfl (fun p hp => by
    have : p = (li, ri) := by simpa using hp
    subst this
    exact ⟨a, b, o, ha, hb, hc⟩)

theorem grace_eq_sql_join_keys {n : Nat} {sp : Row → Row} {k : JoinKind} {h : List Val → Nat}
    {lk rk : List Nat} {wl wr : Nat} {L R : List Row} (hn : 0 < n) (hsp : ∀ r, sp r = r)
    (hk : k ≠ .cross) (H : HCompat h lk rk L R) (hw : ∀ l ∈ L, l.length = wl)
    (hlen : lk.length = rk.length)
    (hty : ∀ l ∈ L, ∀ r ∈ R, ∀ p ∈ lk.zip rk,
      ∃ a b o, l[p.1]? = some a ∧ r[p.2]? = some b ∧ Val.cmp a b = .ok o) :
    ∃ out, TurVerif.Sql.join k (eqOn wl lk rk) wl wr L R = .ok out ∧
      (graceJoin n sp k h lk rk wl wr L R).Perm out :=
  ⟨nlJoinP k (keysMatch lk rk) wl wr L R,
    nl_eq_sql_join hk (fun l hl r hr => keeps_eqOn (hw l hl) hlen (hty l hl r hr)),
    grace_eq_nl hn hsp hk H⟩

theorem grace_eq_sql_join {n : Nat} {sp : Row → Row} {k : JoinKind} {h : List Val → Nat}
    {li ri : Nat} {wl wr : Nat} {L R : List Row} (hn : 0 < n) (hsp : ∀ r, sp r = r)
    (hk : k ≠ .cross) (H : HCompat h [li] [ri] L R) (hw : ∀ l ∈ L, l.length = wl)
    (hty : ∀ l ∈ L, ∀ r ∈ R, ∃ a b o, l[li]? = some a ∧ r[ri]? = some b ∧ Val.cmp a b = .ok o) :
    ∃ out, TurVerif.Sql.join k (eqOn wl [li] [ri]) wl wr L R = .ok out ∧
      (graceJoin n sp k h [li] [ri] wl wr L R).Perm out :=
  grace_eq_sql_join_keys hn hsp hk H hw rfl fun l hl r hr p hp => by
    cases List.mem_singleton.mp hp
    exact hty l hl r hr

theorem inner_on_where_equiv (m : Row → Row → Bool) (q : Row → Bool) (L R : List Row) :
    (nlInner m L R).filter q = nlInner (fun l r => m l r && q (l ++ r)) L R := by
  unfold nlInner
  rw [List.filter_flatMap]
  refine flatMap_congr_mem (fun l _ => ?_)
  unfold nlMatches
  rw [List.filter_map, List.filter_filter]
  congr 1
  refine List.filter_congr (fun r _ => ?_)
  simp [Bool.and_comm]

theorem left_on_where_differ :
    let m : Row → Row → Bool := keysMatch [0] [0]
    let q : Row → Bool := fun _ => false
    nlLeft (fun l r => m l r && q (l ++ r)) 1 [[.int 1]] [[.int 1]] = [[.int 1, .null]] ∧
    (nlLeft m 1 [[.int 1]] [[.int 1]]).filter q = [] ∧
    nlLeft m 1 [[.int 1]] [[.int 1]] = [[.int 1, .int 1]] := by decide +kernel

theorem hcompat_of_exact {h : List Val → Nat} {lk rk : List Nat} {L R : List Row}
    (H : ∀ l ∈ L, ∀ r ∈ R, keysMatch lk rk l r = true → keyVals lk l = keyVals rk r) :
    HCompat h lk rk L R :=
  fun l hl r hr hm => by rw [H l hl r hr hm]

theorem keyValEq_int (a b : Int) : keyValEq (.int a) (.int b) = true ↔ a = b := by
  rw [keyValEq_iff, ← Std.compare_eq_iff_eq (a := a)]
  simp [Val.cmp]

/-- values whose `Value::compare`-equality class is a singleton: everything except DOUBLE -/
def exactVal : Val → Bool
  | .flt _ => false
  | _ => true

theorem keyValEq_exact {a b : Val} (ha : exactVal a = true) (hb : exactVal b = true)
    (h : keyValEq a b = true) : a = b := by
  rw [keyValEq_iff] at h
  cases a <;> cases b <;> first | exact Bool.noConfusion ha | exact Bool.noConfusion hb | skip
  all_goals
    simp only [Val.cmp, Except.ok.injEq, Option.some.injEq, Std.compare_eq_iff_eq, reduceCtorEq] at h
  all_goals rw [h]

theorem keyVals_cons_some {l : Row} {i : Nat} {a : Val} (is : List Nat) (h : l[i]? = some a) :
    keyVals (i :: is) l = a :: keyVals is l := by
  simp [keyVals, h]

theorem keysMatchGo_exact {l r : Row} {lk rk : List Nat} (hlen : lk.length = rk.length)
    (hl : ∀ v ∈ keyVals lk l, exactVal v = true) (hr : ∀ v ∈ keyVals rk r, exactVal v = true)
    (hm : keysMatchGo l r lk rk = true) : keyVals lk l = keyVals rk r := by
  induction lk generalizing rk with
  | nil => cases rk with
    | nil => rfl
    | cons _ _ => cases hlen
  | cons li ls ih => cases rk with
    | nil => cases hlen
    | cons ri rs =>
      obtain ⟨a, b, ha, hb, hab, hgo⟩ := keysMatchGo_cons_iff.mp hm
      rw [keyVals_cons_some _ ha] at hl ⊢
      rw [keyVals_cons_some _ hb] at hr ⊢
      rw [List.forall_mem_cons] at hl hr
      rw [keyValEq_exact hl.1 hr.1 hab, ih (Nat.succ.inj hlen) hl.2 hr.2 hgo]

/-- if no key value is a DOUBLE, matching keys are equal value lists, so EVERY hash function is
compatible: no hypothesis on `h` at all -/
theorem hcompat_of_exact_keys {h : List Val → Nat} {lk rk : List Nat} {L R : List Row}
    (hL : ∀ l ∈ L, ∀ v ∈ keyVals lk l, exactVal v = true)
    (hR : ∀ r ∈ R, ∀ v ∈ keyVals rk r, exactVal v = true) : HCompat h lk rk L R :=
  hcompat_of_exact fun l hl r hr hm =>
    have hm := Bool.and_eq_true_iff.mp hm
    keysMatchGo_exact (beq_iff_eq.mp hm.1) (hL l hl) (hR r hr) hm.2

/-- grace hash join = nested loop join for ANY hash function and ANY partition count when the key
columns hold no DOUBLE values (INT / TEXT / BOOLEAN / NULL keys, duplicates allowed) -/
theorem grace_eq_nl_any_hash {n : Nat} {sp : Row → Row} {k : JoinKind} (h : List Val → Nat)
    {lk rk : List Nat} {wl wr : Nat} {L R : List Row} (hn : 0 < n) (hsp : ∀ r, sp r = r)
    (hk : k ≠ .cross)
    (hL : ∀ l ∈ L, ∀ v ∈ keyVals lk l, exactVal v = true)
    (hR : ∀ r ∈ R, ∀ v ∈ keyVals rk r, exactVal v = true) :
    (graceJoin n sp k h lk rk wl wr L R).Perm (nlJoinP k (keysMatch lk rk) wl wr L R) :=
  grace_eq_nl hn hsp hk (hcompat_of_exact_keys hL hR)

/-- the proved domain of the full statement "for every hash function": hash compatible with key
equality (alias making the verdict-logic naming explicit) -/
theorem grace_eq_nl_partial {n : Nat} {sp : Row → Row} {k : JoinKind} {h : List Val → Nat}
    {lk rk : List Nat} {wl wr : Nat} {L R : List Row} (hn : 0 < n) (hsp : ∀ r, sp r = r)
    (hk : k ≠ .cross) (H : HCompat h lk rk L R) :
    (graceJoin n sp k h lk rk wl wr L R).Perm (nlJoinP k (keysMatch lk rk) wl wr L R) :=
  grace_eq_nl hn hsp hk H

/-- the unrestricted statement (no hypothesis relating `h` to key equality) is false of the model -/
theorem grace_eq_nl_counterexample :
    ¬ ∀ (n : Nat) (h : List Val → Nat) (L R : List Row), 0 < n →
      (graceJoin n id .inner h [0] [0] 1 1 L R).Perm (nlJoinP .inner (keysMatch [0] [0]) 1 1 L R) := by
  intro H
  have h2 := H 2 splitHash [[.int 1]] [[.flt 1]] (by decide)
  rw [grace_hash_incompatible_counterexample.2.2.1, grace_hash_incompatible_counterexample.2.1] at h2
  exact absurd h2.length_eq (by decide)

/-! ### non-vacuity: a concrete instance with NULL, duplicate and INT/DOUBLE keys -/

/-- a hash function compatible with `Value::compare` (equal INT and DOUBLE keys collide) -/
def valueHash : List Val → Nat
  | [.int i] => i.toNat
  | [.flt q] => (q.num / q.den).toNat
  | _ => 0

def exL : List Row :=
  [[.int 1, .int 10], [.null, .int 11], [.int 1, .int 12], [.int 2, .int 13], [.int 5, .int 14]]
def exR : List Row := [[.int 1], [.null], [.flt 2], [.int 2], [.int 7]]

theorem ex_hcompat : HCompat valueHash [0] [0] exL exR := by
  unfold HCompat; decide +kernel

theorem ex_typed : ∀ l ∈ exL, ∀ r ∈ exR,
    ∃ a b o, l[0]? = some a ∧ r[0]? = some b ∧ Val.cmp a b = .ok o := by
  intro l hl r hr
  simp only [exL, exR, List.mem_cons, List.not_mem_nil, or_false] at hl hr
  rcases hl with rfl | rfl | rfl | rfl | rfl <;> rcases hr with rfl | rfl | rfl | rfl | rfl <;>
    exact ⟨_, _, _, rfl, rfl, rfl⟩

/-- the three operators emit the same rows in three different orders (`decide +kernel`: the joins
are evaluated once, by the kernel, not a second time by the elaborator) -/
example :
    graceJoin 3 id .full valueHash [0] [0] 2 1 exL exR =
      [[.null, .null, .null], [.null, .int 11, .null],
       [.int 1, .int 10, .int 1], [.int 1, .int 12, .int 1], [.null, .null, .int 7],
       [.int 2, .int 13, .flt 2], [.int 2, .int 13, .int 2], [.int 5, .int 14, .null]] ∧
    hashJoin .full valueHash [0] [0] 2 1 exL exR =
      [[.int 1, .int 10, .int 1], [.int 1, .int 12, .int 1], [.null, .null, .null],
       [.int 2, .int 13, .flt 2], [.int 2, .int 13, .int 2], [.null, .null, .int 7],
       [.null, .int 11, .null], [.int 5, .int 14, .null]] ∧
    nlJoinP .full (keysMatch [0] [0]) 2 1 exL exR =
      [[.int 1, .int 10, .int 1], [.null, .int 11, .null], [.int 1, .int 12, .int 1],
       [.int 2, .int 13, .flt 2], [.int 2, .int 13, .int 2], [.int 5, .int 14, .null],
       [.null, .null, .null], [.null, .null, .int 7]] := by
  decide +kernel

example : (graceJoin 3 id .full valueHash [0] [0] 2 1 exL exR).Perm
    (nlJoinP .full (keysMatch [0] [0]) 2 1 exL exR) :=
  grace_eq_nl (by decide) (fun _ => rfl) (by decide) ex_hcompat

example : ∃ out, TurVerif.Sql.join .full (eqOn 2 [0] [0]) 2 1 exL exR = .ok out ∧
    (graceJoin 3 id .full valueHash [0] [0] 2 1 exL exR).Perm out :=
  grace_eq_sql_join (by decide) (fun _ => rfl) (by decide) ex_hcompat (by decide) ex_typed

end TurVerif.C17
